-- Root of the `LruMem` library: the models (import-free) and everything proved about them.
import LruMem.Model.Basic
import LruMem.Model.Events
import LruMem.Model.Abs
import LruMem.Model.Step
import LruMem.Proofs.Lists
import LruMem.Proofs.Eject
import LruMem.Proofs.Hashbrown
import LruMem.Proofs.Own
import LruMem.Proofs.Simple
import LruMem.Proofs.Inv
import LruMem.Proofs.Reach
import LruMem.Props.C01
import LruMem.Model.Arith
import LruMem.Proofs.Arith
import LruMem.Props.C01b
import LruMem.Props.C02
import LruMem.Proofs.Spec
import LruMem.Props.C03
import LruMem.Props.C04
import LruMem.Props.C05
import LruMem.Props.C10
import LruMem.Props.C11
import LruMem.Props.C15
import LruMem.Props.C20
import LruMem.Props.C13
import LruMem.Props.C06
import LruMem.Props.C12
import LruMem.Props.C14
import LruMem.Props.C17
import LruMem.Props.C19
import LruMem.Model.Decls
import LruMem.Generated.Decls
import LruMem.Props.C18
import LruMem.Model.MemSize
import LruMem.Proofs.MemSize
import LruMem.Props.C08
import LruMem.Props.C09
import LruMem.Model.MemDecl
import LruMem.Generated.MemDecls
import LruMem.Props.C08b
import LruMem.Props.C09b
import LruMem.Model.Ptr
import LruMem.Proofs.Chain
import LruMem.Proofs.Ptr
import LruMem.Proofs.Refine
import LruMem.Props.C07
import LruMem.Model.Panic
import LruMem.Proofs.Abort
import LruMem.Props.C16
import LruMem.Proofs.Refine2
import LruMem.Props.C07b
import LruMem.Proofs.Clone
import LruMem.Props.C14b
import LruMem.Model.CloneFrom
import LruMem.Props.C14c
import LruMem.Props.C06b
import LruMem.Proofs.Cursor
import LruMem.Props.C12b
import LruMem.Props.C17b
import LruMem.Props.C07c
import LruMem.Props.C16b
import LruMem.Model.PanicB
import LruMem.Proofs.PanicB
import LruMem.Props.C16c
import LruMem.Props.C19b
import LruMem.Props.C16d
import LruMem.Props.C16e
