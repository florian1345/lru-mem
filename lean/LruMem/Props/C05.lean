import LruMem.Proofs.Reach
import LruMem.Proofs.Spec
/-!
# C05 — recency order is exact: accesses promote, observations do not

`c.entries` is the order from least- to most-recently-used; iteration, `peek_lru`/`peek_mru` and
`Debug` report exactly it.
-/
namespace LruMem

/-- What the observers report is `entries`: `peek_lru` its head, `peek_mru` its last element,
`Debug` the whole list (iteration: `C05_iteration`). -/
theorem C05_peeks (p : Params) (c : Cache) (o : Oracle) :
    (peekLru c).out = .refPair (c.entries.head?.map pairOf) ∧
    (peekMru c).out = .refPair (c.entries.getLast?.map pairOf) ∧
    (step p c .debugFmt o).out = .items .iter (c.entries.map fun e => some (pairOf e)) :=
  ⟨rfl, rfl, rfl⟩

theorem iterCalls_front (l : List Entry) :
    (iterCalls l (List.replicate l.length true)).1 = l.map some := by
  induction l with
  | nil => rfl
  | cons a l ih => rw [List.length_cons, List.replicate_succ, iterCalls_front_cons, List.map_cons, ih]

theorem iterCalls_back (l : List Entry) :
    (iterCalls l (List.replicate l.length false)).1 = l.reverse.map some := by
  -- on the reversed list: each `next_back` takes the last element
  rw [← List.reverse_reverse l]
  generalize l.reverse = r
  induction r with
  | nil => rfl
  | cons z r ih =>
    rw [List.reverse_cons, List.length_append, List.length_singleton, List.replicate_succ, iterCalls_back_snoc, ih,
      List.reverse_append, List.reverse_singleton, List.singleton_append, List.map_cons]

/-- Full forward traversal yields `entries`, full backward traversal its reverse. -/
theorem C05_iteration (c : Cache) :
    (iterCalls c.entries (List.replicate c.entries.length true)).1 = c.entries.map some ∧
    (iterCalls c.entries (List.replicate c.entries.length false)).1 = c.entries.reverse.map some :=
  ⟨iterCalls_front _, iterCalls_back _⟩

/-- `get`, `get_entry`, `touch` on a present key: that entry becomes the most-recently-used one and
all others keep their relative order. On an absent key nothing changes. -/
theorem C05_promote_lookup (c : Cache) (id : Nat) :
    (∀ e, lookup c.entries id = some e →
      (getEntry c id).cache.entries = removeId c.entries id ++ [e] ∧
      (get c id).cache.entries = removeId c.entries id ++ [e] ∧
      (touch c id).cache.entries = removeId c.entries id ++ [e]) ∧
    (lookup c.entries id = none →
      (getEntry c id).cache.entries = c.entries ∧ (get c id).cache.entries = c.entries ∧
      (touch c id).cache.entries = c.entries) := by
  constructor
  · intro e he
    have hid := (lookup_some_mem he).2
    simp [getEntry, get, touch, he, touchList, hid]
  · intro he
    simp [getEntry, get, touch, he]

/-- `get_lru` promotes the least-recently-used entry: the list is rotated by one. -/
theorem C05_getLru {p : Params} {c : Cache} (h : InvA p c) (e : Entry) (l : List Entry)
    (hc : c.entries = e :: l) : (getLru c).cache.entries = l ++ [e] := by
  simp only [getLru, lruOf, hc, List.head?_cons, touchList, removeId_cons, if_true]

/-- The "others keep their relative order" part: removing one id yields a sublist. -/
theorem C05_others_keep_order (l : List Entry) (id : Nat) : (removeId l id).Sublist l :=
  removeId_sublist l id

/-- `insert` (success), `try_insert` (success) and `mutate` (success, either branch) put the affected
entry at the most-recently-used end; the survivors among the others are a sublist of the old order. -/
theorem C05_promote_store {p : Params} {c : Cache} (op : Op) (o : Oracle) (h : InvA p c) (x : Entry)
    (hst : storedLast p c op = some x) (hok : (step p c op o).out.isErr = false) :
    ∃ init, (step p c op o).cache.entries = init ++ [x] ∧ init.Sublist (removeId c.entries x.key.id) := by
  rcases step_stores op o h hst with ⟨he, -⟩ | ⟨-, e⟩
  · rw [he] at hok; cases hok
  · exact ⟨_, e, List.drop_sublist _ _⟩

/-- Observations never change the order: `peek`, `peek_entry`, `peek_lru`, `peek_mru`, `contains`,
every borrowing iteration, `Debug`, cloning, rejected insertions and every capacity operation leave
`entries` exactly as it was. -/
theorem C05_observe {p : Params} {c : Cache} (o : Oracle) (id a : Nat) (k : Key) (v : Val) (kind : IterKind)
    (calls : List Bool) (forget : Bool) (base : Nat) :
    (peek c id).cache = c ∧ (peekEntry c id).cache = c ∧ (peekLru c).cache = c ∧ (peekMru c).cache = c ∧
    (contains c id).cache = c ∧ (step p c .debugFmt o).cache = c ∧ (step p c (.cloneProbe base) o).cache = c ∧
    (kind.borrowing = true → (step p c (.iterate kind calls forget) o).cache = c) ∧
    ((insert p c k v o).out.isErr = true → (insert p c k v o).cache = c) ∧
    ((tryInsert p c k v o).out.isErr = true → (tryInsert p c k v o).cache = c) ∧
    (reserve p c a o).cache.entries = c.entries ∧ (tryReserve p c a o).cache.entries = c.entries ∧
    (shrinkTo p c a o).cache.entries = c.entries ∧ (shrinkToFit p c o).cache.entries = c.entries := by
  refine ⟨rfl, rfl, rfl, rfl, rfl, rfl, rfl, ?_, ?_, ?_, ?_⟩
  · intro hb; simp [step, iterScenario, hb]
  · intro hh
    by_cases hs : entrySize p k v > c.max
    · rw [insert_too_large k v o hs]
    · simp only [insert, if_neg hs, apply_ite Res.out] at hh
      split at hh <;> cases hh
  · rcases tryInsert_cases p c k v o with ⟨out, evs, e, -⟩ | ⟨-, -, e⟩ <;> rw [e]
    · exact fun _ => rfl
    · exact fun hh => nomatch hh
  · exact ⟨(reserve_resized p c a o).frame.1.1, (tryReserve_resized p c a o).frame.1.1,
      (shrinkTo_resized p c a o).frame.1.1, (shrinkTo_resized p c 0 o).frame.1.1⟩

/-- `retain`, removals and evictions keep the relative order of what remains (a sublist). -/
theorem C05_sublist (c : Cache) (o : Oracle) (id m : Nat) (pr : Nat → Key → Val → Bool) :
    (removeEntry c id o).cache.entries.Sublist c.entries ∧ (remove c id o).cache.entries.Sublist c.entries ∧
    (removeLru c o).cache.entries.Sublist c.entries ∧ (removeMru c o).cache.entries.Sublist c.entries ∧
    (setMaxSize c m o).cache.entries.Sublist c.entries ∧
    (retain c (indexPred pr) 0 o).cache.entries.Sublist c.entries := by
  have hre : ∀ id, (removeEntry c id o).cache.entries.Sublist c.entries := by
    intro id; simp only [removeEntry]; split
    · exact removeId_sublist _ _
    · exact List.Sublist.refl _
  refine ⟨hre id, ?_, ?_, ?_, eject_rest_sublist _ _ _, (retainGo_spec _ 0 c.entries).1⟩
  · simp only [remove]; split
    · exact hre id
    · exact List.Sublist.refl _
  · simp only [removeLru]; split
    · exact hre _
    · exact List.Sublist.refl _
  · simp only [removeMru]; split
    · exact hre _
    · exact List.Sublist.refl _

theorem removeEntry_at {p : Params} {c : Cache} (o : Oracle) (h : InvA p c) {l1 l2 : List Entry} {e : Entry}
    (hc : c.entries = l1 ++ e :: l2) : (removeEntry c e.key.id o).cache.entries = l1 ++ l2 := by
  have hn := h.nodup
  rw [hc, ids_append, List.nodup_append] at hn
  rw [removeEntry_found o (lookup_of_mem h.nodup (hc ▸ List.mem_append_right _ (List.mem_cons_self ..)))]
  show removeId c.entries e.key.id = _
  rw [hc, removeId_middle fun hm => hn.2.2 _ hm _ (List.mem_cons_self ..) rfl]

/-- `remove_lru` takes the head, `remove_mru` the last element, of a cache with distinct keys. -/
theorem C05_remove_ends {p : Params} {c : Cache} (o : Oracle) (h : InvA p c) :
    (removeLru c o).cache.entries = c.entries.tail ∧ (removeMru c o).cache.entries = c.entries.dropLast := by
  constructor
  · cases hc : c.entries with
    | nil => simp only [removeLru, lruOf, hc, List.head?_nil, List.tail_nil]
    | cons e l =>
      have : (removeLru c o).cache = (removeEntry c e.key.id o).cache := by
        simp only [removeLru, lruOf, hc, List.head?_cons]
      rw [this]; exact removeEntry_at o h (l1 := []) hc
  · cases hl : mruOf c.entries with
    | none =>
      simp only [removeMru, hl]
      rw [List.getLast?_eq_none_iff.mp hl]; rfl
    | some e =>
      obtain ⟨init, hc⟩ := List.getLast?_eq_some_iff.mp hl
      have : (removeMru c o).cache = (removeEntry c e.key.id o).cache := by simp only [removeMru, hl]
      rw [this, removeEntry_at o h hc, hc, List.dropLast_concat, List.append_nil]

private def p0 : Params := ⟨64, 16, 18446744073709551615⟩
private def c5 : Cache :=
  runOps p0 (Cache.new 1000) [(.insert ⟨1, 0, 1⟩ ⟨1, 2⟩, {}), (.insert ⟨2, 0, 3⟩ ⟨2, 4⟩, {}),
    (.insert ⟨3, 0, 5⟩ ⟨0, 6⟩, {}), (.insert ⟨4, 0, 7⟩ ⟨0, 8⟩, {})]
example : ids (step p0 c5 (.get 2) {}).cache.entries = [1, 3, 4, 2] := by decide +kernel
example : ids (step p0 c5 (.mutate 1 fun v => ({ v with heap := 0 }, 0)) {}).cache.entries = [2, 3, 4, 1] := by decide +kernel
example : ids (step p0 c5 .getLru {}).cache.entries = [2, 3, 4, 1] := by decide +kernel
example : ids (step p0 c5 (.peek 2) {}).cache.entries = [1, 2, 3, 4] := by decide +kernel

end LruMem
