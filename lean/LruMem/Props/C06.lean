import LruMem.Proofs.Reach
/-!
# C06 — every key and value is dropped or handed back exactly once

Objects are identified by tokens. `toks c.entries` are the objects the cache owns. For one step:

  owned before + moved in  =  owned after + dropped by the cache + handed back (+ leaked)

as multisets (`List.count` for every token). `leaked` is non-empty only when an owning iterator is
forgotten (C17). Summed over a program that ends by dropping the cache this gives: everything moved
in is dropped or handed back exactly once — never both, never twice, never neither.

Partial in one respect (DESIGN §6): destructors that themselves panic are outside the model.
-/
namespace LruMem

/-- Objects the caller moves into the cache with this operation (including objects created inside
the `mutate` closure and the copies made by `clone`). -/
def movedIn (_p : Params) (c : Cache) : Op → List Nat
  | .insert k v => [k.tok, v.tok]
  | .tryInsert k v => [k.tok, v.tok]
  | .mutate id f =>
    match lookup c.entries id with
    | some e => if (f e.val).1.tok = e.val.tok then [] else [(f e.val).1.tok]
    | none => []
  | .cloneProbe base => toks (clone c base).1.entries
  | _ => []

theorem C06_insert {p : Params} {c : Cache} (k : Key) (v : Val) (o : Oracle) (h : InvW c) (t : Nat) :
    List.count t (toks c.entries) + List.count t [k.tok, v.tok] =
      List.count t (toks (insert p c k v o).cache.entries) + List.count t (droppedToks (insert p c k v o).evs)
        + List.count t (insert p c k v o).out.owned := by
  by_cases hs : entrySize p k v ≤ c.max
  · have h1 := cnt_removeId t c.entries k.id
    have h2 := cnt_eject t (removeId c.entries k.id) (c.cur - oldSize (lookup c.entries k.id)) (c.max - entrySize p k v)
    simp only [insert_eq k v o h hs, insertUnchecked_spec, Cache.madeRoom]
    generalize lookup c.entries k.id = old at h1 h2 ⊢
    -- the replaced entry's key is dropped and its value handed back
    cases old <;>
      simp only [dropped_append, dropped_insertUnchecked, dropped_evict, toks_append, toks_cons, toks_nil, optToks,
        droppedToks, Out.owned, Option.map, List.count_append, count_pair, List.append_nil,
        List.nil_append] at h1 ⊢ <;>
      omega
  · rw [insert_too_large k v o (Nat.lt_of_not_le hs)]; rfl

theorem C06_tryInsert {p : Params} {c : Cache} (k : Key) (v : Val) (o : Oracle) (t : Nat) :
    List.count t (toks c.entries) + List.count t [k.tok, v.tok] =
      List.count t (toks (tryInsert p c k v o).cache.entries) + List.count t (droppedToks (tryInsert p c k v o).evs)
        + List.count t (tryInsert p c k v o).out.owned := by
  rcases tryInsert_cases p c k v o with ⟨out, evs, e, ho, hd, -⟩ | ⟨-, -, e⟩ <;> rw [e]
  · simp [ho, hd]
  · simp [insertUnchecked_spec, droppedToks, Out.owned]

theorem C06_setMaxSize (c : Cache) (m : Nat) (o : Oracle) (t : Nat) :
    List.count t (toks c.entries) =
      List.count t (toks (setMaxSize c m o).cache.entries) + List.count t (droppedToks (setMaxSize c m o).evs) :=
  (cnt_eject t c.entries c.cur m).symm.trans ((Nat.add_comm ..).trans (congrArg _ (congrArg _ (dropped_evict _).symm)))

/-- Conservation across the closure of `mutate`: a value object other than the old one was moved in, and the old
one has been dropped. -/
theorem cnt_mutated (t : Nat) {l : List Entry} {id : Nat} {e : Entry} (he : lookup l id = some e) (v' : Val) (sz : Nat) :
    List.count t (toks l) + List.count t (if v'.tok = e.val.tok then [] else [v'.tok]) =
      List.count t (toks (touchList l { e with val := v', size := sz })) +
        List.count t (droppedToks (mutatePre id e.val v')) := by
  rw [cnt_touchList, dropped_mutatePre, ← cnt_removeId t l id, he]
  show _ + List.count t [e.key.tok, e.val.tok] + _ = List.count t (toks (removeId l e.key.id)) + List.count t [e.key.tok, v'.tok] + _
  rw [(lookup_some_mem he).2]
  by_cases hv : v'.tok = e.val.tok
  · rw [if_pos hv, if_pos hv, hv]
  · rw [if_neg hv, if_neg hv, count_pair, count_pair, ← Nat.add_assoc, ← Nat.add_assoc]
    exact Nat.add_right_comm ..

theorem C06_mutate {p : Params} {c : Cache} (id : Nat) (f : Val → Val × Nat) (o : Oracle) (t : Nat) :
    List.count t (toks c.entries) + List.count t (movedIn p c (.mutate id f)) =
      List.count t (toks (mutate p c id f o).cache.entries) + List.count t (droppedToks (mutate p c id f o).evs)
        + List.count t (mutate p c id f o).out.owned := by
  simp only [movedIn]
  rcases mutate_cases p c id f o with ⟨hl, eq⟩ | ⟨e, d, hl, -, -, -, eq⟩ | ⟨e, d, hl, -, -, -, eq⟩ | ⟨e, d, hl, -, -, eq⟩ <;>
    rw [eq, hl]
  · rfl
  · -- handed back in the error instead of kept
    have h := cnt_mutated (id := id) t hl (f e.val).1 e.size
    simp only [cnt_touchList, (lookup_some_mem hl).2] at h
    simp only [removeEntry, hl, dropped_append, droppedToks, List.append_nil, Out.owned]
    omega
  · have h := cnt_mutated (id := id) t hl (f e.val).1 (e.size + d)
    have h2 := C06_setMaxSize { c with entries := touchList c.entries ⟨e.key, (f e.val).1, e.size + d⟩, cur := c.cur + d }
      c.max o t
    simp only [dropped_append, List.count_append, Out.owned, List.count_nil] at h2 ⊢
    omega
  · exact (cnt_mutated t hl (f e.val).1 (e.size - d)).trans (Nat.add_zero _).symm

/-- The simple operations: nothing leaves, or one entry leaves, or (`clear`) all do. -/
theorem C06_simple {c : Cache} {o : Oracle} {r : Res} (hs : Simple c o r) (t : Nat) :
    List.count t (toks c.entries) =
      List.count t (toks r.cache.entries) + List.count t (droppedToks r.evs) + List.count t r.out.owned := by
  -- what leaves, dropped or handed out, is one list: nothing, or the two objects of the entry removed
  rw [Nat.add_assoc, ← List.count_append]
  cases hs with
  | same out evs _ hg => rw [hg]; rfl
  | touched e he out evs _ hg => rw [hg, cnt_touchList, ← cnt_removeId t c.entries e.key.id, he]; rfl
  | removed e he out evs _ hg => rw [hg.count_eq t, ← cnt_removeId t c.entries e.key.id, he]; rfl
  | cleared =>
    rw [show droppedToks (clear c).evs ++ (clear c).out.owned = toks c.entries from
      (List.append_nil _).trans (dropped_dropAll _)]
    exact (Nat.zero_add _).symm

theorem C06_resized {c : Cache} {reqs : List Nat} {r : Res} (hr : Resized c reqs r) (t : Nat) :
    List.count t (toks c.entries) =
      List.count t (toks r.cache.entries) + List.count t (droppedToks r.evs) + List.count t r.out.owned := by
  obtain ⟨⟨he, -, -⟩, hd, ho⟩ := hr.frame
  rw [he, hd, ho]; rfl

theorem owned_pairs (ys : List (Option Entry)) :
    ((ys.map (·.map pairOf)).filterMap id).flatMap (fun kv => [kv.1.tok, kv.2.tok]) = toks (ys.filterMap id) := by
  induction ys with
  | nil => rfl
  | cons y ys ih =>
    cases y with
    | none => simpa using ih
    | some e =>
      simp only [List.map_cons, Option.map_some, List.filterMap_cons, id, List.flatMap_cons]
      rw [ih]; rfl

/-- `drain` and `into_iter` hand out the pair, `into_keys` hands out the key and drops the value, `into_values` the
other way round. -/
theorem cnt_yield (t : Nat) {kind : IterKind} (hk : kind.borrowing = false) (ys : List (Option Entry)) :
    List.count t (droppedToks (yieldEvs kind ys)) + List.count t (Out.items kind (ys.map (·.map pairOf))).owned =
      List.count t (toks (ys.filterMap id)) := by
  cases kind with
  | iter | keys | values => cases hk
  | drain | intoIter => exact (Nat.zero_add _).trans (congrArg _ (owned_pairs ys))
  | intoKeys | intoValues =>
    induction ys with
    | nil => rfl
    | cons y ys ih =>
      cases y with
      | none => exact ih
      | some e =>
        simp only [yieldEvs, Out.owned, List.map_cons, Option.map_some, List.filterMap_cons, id, toks_cons,
          droppedToks, pairOf, List.count_cons] at ih ⊢
        omega

/-- Owning iterators (`drain`, `into_iter`, `into_keys`, `into_values`), consumed from either end
for any number of steps: every object the cache owned is yielded to the caller, dropped by the
iterator (the other half of a yielded pair, or the unconsumed rest when the iterator is dropped), or
— only if the iterator is forgotten — leaked with the unconsumed rest; each exactly once. -/
theorem C06_owning_iter (c : Cache) (kind : IterKind) (calls : List Bool) (forget : Bool)
    (hk : kind.borrowing = false) (t : Nat) :
    List.count t (toks c.entries) =
      List.count t (droppedToks (iterScenario c kind calls forget).evs) +
      List.count t (iterScenario c kind calls forget).out.owned +
      (if forget then List.count t (toks (iterCalls c.entries calls).2) else 0) ∧
    ((iterScenario c kind calls forget).cache.map (·.entries)).getD [] = [] := by
  obtain ⟨he, ho, hc⟩ := iterScenario_owning hk c calls forget
  have h0 := cnt_iterCalls t c.entries calls
  have h1 := cnt_yield t hk (iterCalls c.entries calls).1
  rw [he, ho, dropped_append, List.count_append]
  refine ⟨?_, hc⟩
  rw [← h0, ← h1]
  cases forget
  · -- dropped: the rest is dropped with the iterator
    show _ = _ + List.count t (droppedToks (dropAllEvs _)) + _ + 0
    rw [dropped_dropAll]; exact Nat.add_right_comm ..
  · rfl

/-- One step that neither consumes the cache nor leaks an iterator: exact conservation. -/
theorem C06_step_conserve {p : Params} {c : Cache} (op : Op) (o : Oracle) (h : InvW c)
    (hk : op.consumes = false) (hl : ∀ k calls, op ≠ .iterate k calls true) (t : Nat) :
    List.count t (toks c.entries) + List.count t (movedIn p c op) =
      List.count t (toks (step p c op o).cache.entries) + List.count t (droppedToks (step p c op o).evs)
        + List.count t (step p c op o).out.owned := by
  cases op with
  | insert k v => exact C06_insert k v o h t
  | tryInsert k v => exact C06_tryInsert k v o t
  | mutate id f => exact C06_mutate id f o t
  | setMaxSize m => exact congrArg (· + 0) (C06_setMaxSize c m o t)
  | retain pr => exact congrArg (· + 0) (cnt_retain t (indexPred pr) 0 c.entries).symm
  | reserve | tryReserve | shrinkTo | shrinkToFit => exact C06_resized (step_resized o rfl) t
  | cloneProbe base =>
    -- the copies are moved in and all dropped when the probe's clone is dropped
    show _ + _ = _ + List.count t (droppedToks (cloneEvs c.entries base ++ dropAllEvs (clone c base).1.entries)) + 0
    rw [dropped_append, dropped_cloneEvs, dropped_dropAll]; rfl
  | iterate kind calls forget =>
    have hf : forget = false := by
      cases forget with
      | false => rfl
      | true => exact absurd rfl (hl kind calls)
    subst hf
    cases kind with
    | drain =>
      have := (C06_owning_iter c .drain calls false rfl t).1
      show _ + 0 = 0 + List.count t (droppedToks (iterScenario c .drain calls false).evs) + _
      rw [Nat.zero_add]; exact (Nat.add_zero _).trans this
    | intoIter | intoKeys | intoValues => cases hk
    | _ => rfl
  | _ => exact C06_simple (step_simple (p := p) o h.nodup rfl) t

/-- Dropping the cache drops exactly what it owns. -/
theorem C06_drop (c : Cache) : droppedToks (dropCache c) = toks c.entries := dropped_dropAll _

/-- An operation admissible inside a C06 program: it does not consume the cache and does not leak an
iterator (`mem::forget` is the subject of C17). -/
def Op.plain (op : Op) : Bool :=
  !op.consumes && (match op with | .iterate _ _ true => false | _ => true)

theorem Op.plain_spec {op : Op} (h : op.plain = true) :
    op.consumes = false ∧ ∀ k calls, op ≠ .iterate k calls true := by
  simp only [Op.plain, Bool.and_eq_true, Bool.not_eq_true'] at h
  refine ⟨h.1, ?_⟩
  intro k calls heq
  subst heq
  simp at h

/-- The ledger of a program on one cache: what was moved in, what was dropped or handed back. -/
structure Ledger where
  moved : List Nat
  gone : List Nat

def runLedger (p : Params) : Cache → List (Op × Oracle) → Cache × Ledger
  | c, [] => (c, ⟨[], []⟩)
  | c, (op, o) :: rest =>
    let r := step p c op o
    let x := runLedger p r.cache rest
    (x.1, ⟨movedIn p c op ++ x.2.moved, droppedToks r.evs ++ r.out.owned ++ x.2.gone⟩)

/-- A whole program of plain operations followed by dropping the cache: for every object, the number
of times it was moved in (plus initially owned) equals the number of times it was dropped or handed
back. -/
theorem C06_program {p : Params} (ops : List (Op × Oracle)) :
    ∀ (c : Cache), InvA p c → (∀ x ∈ ops, x.1.plain = true) → ∀ t,
    List.count t (toks c.entries) + List.count t (runLedger p c ops).2.moved =
      List.count t (runLedger p c ops).2.gone + List.count t (droppedToks (dropCache (runLedger p c ops).1)) := by
  induction ops with
  | nil => intro c _ _ t; simp [runLedger, C06_drop]
  | cons x ops ih =>
    intro c h hp t
    obtain ⟨op, o⟩ := x
    obtain ⟨hk, hl⟩ := Op.plain_spec (hp (op, o) (by simp))
    have h1 := C06_step_conserve (p := p) op o h.weak hk hl t
    have h2 := ih (step p c op o).cache (step_inv op o h) (fun y hy => hp y (by simp [hy])) t
    simp only [runLedger, List.count_append] at *
    omega

/-- Exactly once: if the objects moved in over the whole program are pairwise distinct (and distinct
from what the cache held at the start), then the objects dropped or handed back — during the program
and by the final drop of the cache — are pairwise distinct and are exactly those objects:
never both, never twice, never neither. -/
theorem C06_exactly_once {p : Params} (ops : List (Op × Oracle)) (c : Cache) (h : InvA p c)
    (hp : ∀ x ∈ ops, x.1.plain = true) (hnd : (toks c.entries ++ (runLedger p c ops).2.moved).Nodup) :
    ((runLedger p c ops).2.gone ++ droppedToks (dropCache (runLedger p c ops).1)).Nodup ∧
    ((runLedger p c ops).2.gone ++ droppedToks (dropCache (runLedger p c ops).1)).Perm
      (toks c.entries ++ (runLedger p c ops).2.moved) := by
  have hperm := List.perm_iff_count.mpr fun t =>
    (List.count_append ..).trans ((C06_program ops c h hp t).symm.trans (List.count_append ..).symm)
  exact ⟨hperm.symm.nodup_iff.mp hnd, hperm⟩

/-! ### non-vacuity: replace, evict, overflow-mutate, partial drain, then drop — all 13 objects accounted -/
private def p0 : Params := ⟨64, 16, 18446744073709551615⟩
private def prog : List (Op × Oracle) :=
  [(.insert ⟨1, 0, 1⟩ ⟨1, 2⟩, {}), (.insert ⟨1, 0, 3⟩ ⟨2, 4⟩, {}), (.insert ⟨2, 0, 5⟩ ⟨0, 6⟩, {}),
   (.insert ⟨3, 0, 7⟩ ⟨0, 8⟩, {}), (.mutate 2 (fun _ => (⟨900, 9⟩, 0)), {}), (.insert ⟨4, 0, 10⟩ ⟨0, 11⟩, {}),
   (.iterate .drain [true] false, {}), (.insert ⟨5, 0, 12⟩ ⟨0, 13⟩, {})]
example : ∀ x ∈ prog, x.1.plain = true := by decide +kernel
example : (runLedger p0 (Cache.new 140) prog).2.moved = [1, 2, 3, 4, 5, 6, 7, 8, 9, 10, 11, 12, 13] := by decide +kernel
example : ((runLedger p0 (Cache.new 140) prog).2.gone ++ droppedToks (dropCache (runLedger p0 (Cache.new 140) prog).1)).Perm
    [1, 2, 3, 4, 5, 6, 7, 8, 9, 10, 11, 12, 13] := by decide +kernel

end LruMem
