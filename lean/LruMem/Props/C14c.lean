import LruMem.Model.CloneFrom
import LruMem.Proofs.Abort
import LruMem.Props.C14
import LruMem.Props.C06
/-!
# C14 / C16 — `clone_from`

`d.clone_from(&c)` (std's default, `*d = c.clone()`; `Model/CloneFrom.lean`): the destination becomes
the clone — whatever it held before —, every object of the old destination is dropped exactly once
and none of the source's; and a panic of `Clone` / `Hash` while the clone is being built leaves the
destination the very value it was (only objects created by this call are dropped).
-/
namespace LruMem

/-- The destination after `clone_from` is the clone of the source, independently of what the
destination was: equal contents, order, sizes, totals, limit; capacity at least the source's; the
invariant holds; the unchecked `unwrap` is never hit. -/
theorem C14_clone_from_equal {p : Params} {c : Cache} (d : Cache) (base : Nat) (h : InvA p c) :
    (cloneFrom d c base).1 = (clone c base).1 ∧
    ((cloneFrom d c base).1.entries.map fun e => (e.key.id, e.key.heap, e.val.heap, e.size)) =
      (c.entries.map fun e => (e.key.id, e.key.heap, e.val.heap, e.size)) ∧
    (cloneFrom d c base).1.cur = c.cur ∧ (cloneFrom d c base).1.max = c.max ∧
    (cloneFrom d c base).1.shape.capacity ≥ c.shape.capacity ∧
    InvA p (cloneFrom d c base).1 ∧ (cloneFrom d c base).2.2 = .ok :=
  ⟨rfl, C14_equal base h⟩

/-- Exactly the objects of the old destination are dropped, each once (in the destination's drop
order); no object of the source and none of the new copies. -/
theorem C14_clone_from_drops_old (d c : Cache) (base : Nat) :
    droppedToks (cloneFrom d c base).2.1 = toks d.entries := by
  show droppedToks (cloneEvs c.entries base ++ dropCache d) = _
  rw [dropped_append, dropped_cloneEvs, C06_drop]; rfl

/-- The new contents are fresh objects: pairwise distinct, none of the source's, none of the old
destination's. -/
theorem C14_clone_from_fresh (d c : Cache) (base : Nat)
    (hc : ∀ t ∈ toks c.entries, t < base) (hd : ∀ t ∈ toks d.entries, t < base) :
    (toks (cloneFrom d c base).1.entries).Nodup ∧
    ∀ t ∈ toks (cloneFrom d c base).1.entries, t ∉ toks c.entries ∧ t ∉ toks d.entries :=
  ⟨(C14_tokens c base hc).1, fun t ht => ⟨clone_toks_fresh c base hc t ht, clone_toks_fresh c base hd t ht⟩⟩

/-- `.1`: the callbacks made so far; `.2`: what the unwinding drops (the complete entries of the partial clone). -/
theorem dropped_cloneAbort (kind : CbKind) (n : Nat) (l : List Entry) (base : Nat) :
    droppedToks (cloneAbortEvs kind n l base).1 = [] ∧
    ∀ t ∈ droppedToks (cloneAbortEvs kind n l base).2, base ≤ t := by
  induction l generalizing n base with
  | nil => exact ⟨rfl, fun _ h => nomatch h⟩
  | cons e l ih =>
    unfold cloneAbortEvs
    by_cases h1 : n ≤ 1
    · rw [if_pos h1]; split <;> exact ⟨rfl, fun _ h => (List.not_mem_nil h).elim⟩
    · rw [if_neg h1]
      exact ⟨(ih (n - 1) (base + 2)).1, List.forall_mem_cons.mpr ⟨Nat.le_refl _, List.forall_mem_cons.mpr
        ⟨Nat.le_succ _, fun t ht => Nat.le_trans (Nat.le_add_right base 2) ((ih (n - 1) (base + 2)).2 t ht)⟩⟩⟩

theorem cbCount_dropAll (kind : CbKind) (l : List Entry) : cbCount kind (dropAllEvs l) = 0 := by
  induction l with
  | nil => rfl
  | cons e l ih => exact ih

theorem cloneFromP_cache (p : Params) (d c : Cache) (base : Nat) (kind : CbKind) (n : Nat) :
    (cloneFromP p d c base kind n).cache = if cloneFires c base kind n then d else (clone c base).1 :=
  apply_ite Res.cache ..

/-- **A panic while `clone_from` builds the clone leaves the destination untouched.** If the `n`-th
`Clone` (of a key or of a value) or `Hash` callback exists, the call unwinds with the destination the
same value as before — so every invariant it satisfied still holds —, the source the same value, and
only objects created by this very call dropped. -/
theorem C16_clone_from_abort (p : Params) (d c : Cache) (base : Nat) (kind : CbKind) (n : Nat)
    (hf : cloneFires c base kind n = true) :
    (cloneFromP p d c base kind n).cache = d ∧
    (cloneFromP p d c base kind n).status = .userPanic ∧
    ∀ t ∈ droppedToks (cloneFromP p d c base kind n).evs, base ≤ t := by
  -- the probe's own drop of the finished clone makes no callback, so the callback exists in the probe too
  have hfire : ¬ (n = 0 ∨ cbCount kind (step p c (.cloneProbe base) {}).evs < n) := by
    have hn := of_decide_eq_true hf
    rw [show (step p c (.cloneProbe base) {}).evs = (clone c base).2.1 ++ dropAllEvs (clone c base).1.entries from rfl,
      cbCount_append, cbCount_dropAll, Nat.add_zero]
    exact fun h => h.elim (Nat.ne_of_gt hn.1) (Nat.not_lt.mpr hn.2)
  have hs : cloneFromP p d c base kind n =
      { abortRes c ((cloneAbortEvs kind n c.entries base).1 ++ (cloneAbortEvs kind n c.entries base).2) with cache := d } := by
    dsimp only [cloneFromP, stepP]; rw [if_pos hf, if_neg hfire]
  rw [hs]
  refine ⟨rfl, rfl, fun t (ht : t ∈ droppedToks (_ ++ _)) => ?_⟩
  rw [dropped_append, (dropped_cloneAbort kind n c.entries base).1] at ht
  exact (dropped_cloneAbort kind n c.entries base).2 t ht

/-- If the callback does not exist, the injected panic changes nothing: `clone_from` completes. -/
theorem C16_clone_from_completes (p : Params) (d c : Cache) (base : Nat) (kind : CbKind) (n : Nat)
    (hf : cloneFires c base kind n = false) :
    (cloneFromP p d c base kind n).cache = (clone c base).1 ∧
    (cloneFromP p d c base kind n).evs = (clone c base).2.1 ++ dropCache d := by
  simp only [cloneFromP, hf, Bool.false_eq_true, if_false]
  exact ⟨rfl, rfl⟩

private def p0 : Params := ⟨64, 16, 18446744073709551615⟩
private def src : Cache :=
  runOps p0 (Cache.new 1000) [(.insert ⟨1, 0, 1⟩ ⟨1, 2⟩, {}), (.insert ⟨2, 3, 3⟩ ⟨2, 4⟩, {}), (.get 1, {})]
private def dst : Cache :=
  runOps p0 (Cache.new 500) [(.insert ⟨7, 0, 11⟩ ⟨1, 12⟩, {})]
example : ids (cloneFrom dst src 100).1.entries = [2, 1] ∧ (cloneFrom dst src 100).1.max = 1000 ∧
    droppedToks (cloneFrom dst src 100).2.1 = [11, 12] := by decide +kernel
example : cloneFires src 100 .cloneV 2 = true ∧ (cloneFromP p0 dst src 100 .cloneV 2).cache = dst ∧
    droppedToks (cloneFromP p0 dst src 100 .cloneV 2).evs = [100, 101] := by decide +kernel
example : cloneFires src 100 .cloneV 3 = false ∧ ids (cloneFromP p0 dst src 100 .cloneV 3).cache.entries = [2, 1] := by decide +kernel

end LruMem
