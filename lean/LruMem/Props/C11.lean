import LruMem.Proofs.Reach
import LruMem.Proofs.Spec
/-!
# C11 — `mutate` re-accounts the changed value or hands it back
-/
namespace LruMem

def closureCalls : List Ev → Nat
  | [] => 0
  | .closure _ :: l => closureCalls l + 1
  | _ :: l => closureCalls l

theorem closureCalls_append (a b : List Ev) : closureCalls (a ++ b) = closureCalls a + closureCalls b :=
  evCount_append rfl (fun e _ => by cases e <;> rfl) a b

theorem closureCalls_evict (l : List Entry) : closureCalls (evictAllEvs l) = 0 :=
  (evCount_flatMap rfl closureCalls_append evictEvs 0 (fun _ => rfl) l).trans (Nat.zero_mul _)

/-- Absent key: the closure is never called, `Ok(None)`, nothing changes. -/
theorem C11_absent {p : Params} {c : Cache} (id : Nat) (f : Val → Val × Nat) (o : Oracle)
    (h : lookup c.entries id = none) :
    (mutate p c id f o).out = .mutOk none ∧ closureCalls (mutate p c id f o).evs = 0 ∧
    (mutate p c id f o).cache = c := by
  simp [mutate, h, closureCalls]

theorem closureCalls_mutatePre (id : Nat) (v v' : Val) : closureCalls (mutatePre id v v') = 1 := by
  unfold mutatePre; split <;> rfl

/-- Present key: the closure runs exactly once, on that entry's value. -/
theorem C11_closure_once {p : Params} {c : Cache} (id : Nat) (f : Val → Val × Nat) (o : Oracle)
    (e : Entry) (he : lookup c.entries id = some e) :
    closureCalls (mutate p c id f o).evs = 1 := by
  -- in every branch: the events up to the second size estimate, then lookups and evictions only
  rcases mutate_cases p c id f o with ⟨hl, -⟩ | ⟨e', d, -, -, -, -, eq⟩ | ⟨e', d, -, -, -, -, eq⟩ | ⟨e', d, -, -, -, eq⟩
  · rw [he] at hl; cases hl
  · rw [eq, closureCalls_append, closureCalls_mutatePre]; rfl
  · rw [eq]; simp only [setMaxSize, closureCalls_append, closureCalls_mutatePre, closureCalls_evict]
  · rw [eq]; exact closureCalls_mutatePre ..

/-- Present key, new value fits: the closure's result is forwarded, the entry becomes
most-recently-used and records `entry_size(key, new value)`; older entries are evicted only as far as
needed (minimal LRU prefix of the others, C03). Covers shrink, no change, and growth that fits. -/
theorem C11_present_fits {p : Params} {c : Cache} (id : Nat) (f : Val → Val × Nat) (o : Oracle) (h : InvA p c)
    (e : Entry) (he : lookup c.entries id = some e) (hfit : entrySize p e.key (f e.val).1 ≤ c.max) :
    (mutate p c id f o).out = .mutOk (some (f e.val).2) ∧
    ∃ n, n ≤ (removeId c.entries id).length ∧
      (mutate p c id f o).cache.entries =
        (removeId c.entries id).drop n ++ [⟨e.key, (f e.val).1, entrySize p e.key (f e.val).1⟩] ∧
      (valMemSize p (f e.val).1 ≤ valMemSize p e.val → n = 0) ∧
      n = need (removeId c.entries id) (c.max - entrySize p e.key (f e.val).1) := by
  obtain ⟨a, b⟩ := mutate_fits_spec id f o h e he hfit
  exact ⟨b, _, need_le_length _ _, a, fun hle => mutate_shrink_need h he (Nat.not_lt.mpr hle), rfl⟩

/-- Grown entry alone exceeds the limit: it is removed and handed back in `EntryTooLarge` with the
mutated value and the exact old and new entry sizes; its objects are not dropped; every other entry,
their order and sizes are untouched and the total shrinks by the old size. -/
theorem C11_overflow {p : Params} {c : Cache} (id : Nat) (f : Val → Val × Nat) (o : Oracle) (h : InvA p c)
    (e : Entry) (he : lookup c.entries id = some e) (hbig : entrySize p e.key (f e.val).1 > c.max) :
    (mutate p c id f o).out = .mutTooLarge e.key (f e.val).1 (entrySize p e.key e.val)
      (entrySize p e.key (f e.val).1) c.max ∧
    (mutate p c id f o).cache.entries = removeId c.entries id ∧
    (mutate p c id f o).cache.cur = c.cur - entrySize p e.key e.val ∧
    (mutate p c id f o).cache.max = c.max ∧
    (mutate p c id f o).out.owned = [e.key.tok, (f e.val).1.tok] := by
  obtain ⟨a, b, c', d, -⟩ := mutate_overflow_spec id f o h e he hbig
  exact ⟨b, a, c', d, by rw [b]; rfl⟩

/-- In the overflow case nothing but (possibly) the *replaced* old value object is dropped. -/
theorem C11_overflow_drops {p : Params} {c : Cache} (id : Nat) (f : Val → Val × Nat) (o : Oracle) (h : InvA p c)
    (e : Entry) (he : lookup c.entries id = some e) (hbig : entrySize p e.key (f e.val).1 > c.max) :
    droppedToks (mutate p c id f o).evs = if (f e.val).1.tok = e.val.tok then [] else [e.val.tok] := by
  rw [(mutate_overflow_spec id f o h e he hbig).2.2.2.2, dropped_append, dropped_mutatePre]
  exact List.append_nil _

private def p0 : Params := ⟨64, 16, 18446744073709551615⟩
private def c1 : Cache := runOps p0 (Cache.new 200) [(.insert ⟨1, 0, 1⟩ ⟨4, 2⟩, {}), (.insert ⟨2, 0, 3⟩ ⟨4, 4⟩, {})]
example : (step p0 c1 (.mutate 1 fun v => ({ v with heap := 137 }, 9)) {}).out =
    .mutTooLarge ⟨1, 0, 1⟩ ⟨137, 2⟩ 68 201 200 := by decide +kernel
example : (step p0 c1 (.mutate 1 fun v => ({ v with heap := 136 }, 9)) {}).cache.entries.map (·.key.id) = [1] := by decide +kernel
example : (step p0 c1 (.mutate 1 fun v => ({ v with heap := 0 }, 9)) {}).cache.entries.map (·.size) = [68, 64] := by decide +kernel

end LruMem
