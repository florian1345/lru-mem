import LruMem.Proofs.Clone
/-!
# C14 at the pointer level: the clone shares nothing with its source

`C14_clone_closed`: for every well-formed source structure, `clone` builds — in its own heap — a
structure that is well-formed by itself: its chain `seal → LRU … MRU → seal` is closed over its
own fresh nodes (although every node was first copied *with the source's link values*, `set_head`
overwrote all of them), no step of the loop touched an invalid node, and its abstraction is the
Level A clone. The source is an argument that is only read: it is the same value afterwards.
-/
namespace LruMem
open LruMem.Chain

theorem C14_clone_closed {p : Params} {c : CacheB} {l : List Nat} (base : Nat) (h : RefInv p c l) :
    ∃ l', Rep (c.clone base) l' ∧
      (c.clone base).abs = (clone c.abs base).1 ∧
      -- closed: no link of the clone's seal or of a listed node leaves the clone's own nodes
      (∀ a ∈ (c.clone base).sl :: l',
        ((c.clone base).links a).prev ∈ (c.clone base).sl :: l' ∧ ((c.clone base).links a).next ∈ (c.clone base).sl :: l') ∧
      -- in particular none of them is one of the copied source links (offset into the source heap)
      (∀ a ∈ (c.clone base).sl :: l', ((c.clone base).links a).prev < (c.clone base).fresh ∧
        ((c.clone base).links a).next < (c.clone base).fresh) := by
  have hd0 : Rep ({ CacheB.new c.max c.shape.capacity with cur := c.cur } : CacheB) [] :=
    (new_rep c.max c.shape.capacity).congr rfl rfl rfl rfl rfl rfl rfl
  obtain ⟨l', r, habs⟩ := cloneGo_rep (c.table.length + 1) l [] _ [] base h.rep hd0
    (h.rep.length ▸ Nat.lt_succ_self _)
  rw [← (seal_ends h.rep.chain).1] at r habs
  replace r : Rep (c.clone base) l' := r
  have hcl := linv_closed r.chain
  refine ⟨l', r, ?_, hcl, ?_⟩
  · refine Eq.trans habs ?_
    rw [hd0.abs_entries, clone, h.rep.abs_entries]
    simp [CacheB.new, Shape.fresh]
  · exact fun a ha => ⟨r.lt_fresh (hcl a ha).1, r.lt_fresh (hcl a ha).2⟩

end LruMem
