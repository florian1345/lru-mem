import LruMem.Proofs.Reach
import LruMem.Proofs.Spec
/-!
# C01 — the memory bound is never exceeded

After every public operation `current_size ≤ max_size`, for every history, every key/value size,
every limit, every initial capacity, every closure/predicate and every resolution of hashbrown's
internal choices (`Oracle`) — hence for every hasher.
-/
namespace LruMem

/-- The bound holds in every reachable cache (clones included). -/
theorem C01_bound {p : Params} {c : Cache} (h : Reachable p c) : c.cur ≤ c.max :=
  (reachable_inv h).bound

/-- …and the bounded quantity is the sum of the recorded size estimates of the entries held. -/
theorem C01_sum {p : Params} {c : Cache} (h : Reachable p c) : c.cur = sumSizes c.entries :=
  (reachable_inv h).cur

/-- One step from any state satisfying the invariant: the bound holds afterwards, whatever the
operation, its arguments (sizes, new limit `m ∈ ℕ`, closure, predicate) and the oracle. -/
theorem C01_step {p : Params} {c : Cache} (op : Op) (o : Oracle) (h : InvA p c) :
    (step p c op o).cache.cur ≤ (step p c op o).cache.max :=
  (step_inv op o h).bound

theorem C01_history {p : Params} (max n : Nat) (l : List (Op × Oracle)) :
    (runOps p (Cache.withCapacity max n) l).cur ≤ (runOps p (Cache.withCapacity max n) l).max :=
  C01_bound (reachable_runOps (Reachable.new max n) l)

/-- The eviction loop `while current_size > target { remove_lru }` always terminates, and no
unchecked `unwrap` is hit: no step diverges or is undefined. -/
theorem C01_total {p : Params} {c : Cache} (op : Op) (o : Oracle) (h : Reachable p c) :
    (step p c op o).status ≠ .diverge ∧ (step p c op o).status ≠ .ub := by
  rcases step_status op o (reachable_inv h).weak ((reachable_inv h).mutateOk op) with h1 | ⟨h1, _⟩ <;> simp [h1]

/-- A clone obeys the bound as well. -/
theorem C01_clone {p : Params} {c : Cache} (base : Nat) (h : Reachable p c) :
    (clone c base).1.cur ≤ (clone c base).1.max :=
  C01_bound (Reachable.clone base h)

/-- The insertion path ejects down to `max - size` *before* linking: the new entry always fits. -/
theorem C01_insert_fits {p : Params} {c : Cache} (k : Key) (v : Val) (o : Oracle) (h : InvA p c) :
    (insert p c k v o).cache.cur ≤ c.max ∧ (insert p c k v o).cache.max = c.max := by
  have hm : (insert p c k v o).cache.max = c.max := by
    by_cases hs : entrySize p k v ≤ c.max
    · exact (insert_spec k v o h.weak hs).2.2.1
    · simp only [insert, if_pos (Nat.not_le.mp hs)]
  exact ⟨hm ▸ (insert_inv k v o h).bound, hm⟩

/-! ### non-vacuity: a concrete reachable cache that is *exactly* full, then pushed over -/

private def p0 : Params := ⟨64, 16, 18446744073709551615⟩
private def full3 : Cache :=
  runOps p0 (Cache.new 200) [(.insert ⟨1, 0, 1⟩ ⟨4, 2⟩, {}), (.insert ⟨2, 0, 3⟩ ⟨4, 4⟩, {}), (.insert ⟨3, 0, 5⟩ ⟨0, 6⟩, {})]

example : Reachable p0 full3 := reachable_runOps (Reachable.new 200 0) _
example : full3.cur = 200 ∧ full3.max = 200 ∧ full3.entries.length = 3 := by decide +kernel
-- growing the LRU entry by one byte while the cache is exactly full evicts and keeps the bound
example : (step p0 full3 (.mutate 1 fun v => ({ v with heap := 5 }, 0)) {}).cache.cur = 133 := by decide +kernel
-- lowering the limit to an arbitrary value in between
example : (step p0 full3 (.setMaxSize 131) {}).cache.cur = 64 := by decide +kernel

end LruMem
