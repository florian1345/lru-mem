import LruMem.Proofs.Arith
import LruMem.Proofs.Reach
/-!
# C01 (continued) — "any limit from 0 to `usize::MAX`": the accounting arithmetic stays inside `usize`

`C01_bound` is a statement over `Nat`. The code computes over `usize`, where an overflowing addition
or a subtraction below zero panics (debug) or wraps (release) — after which neither the bound nor
the exact accounting (C02) would mean anything. `arithOf` (in `Model/Arith.lean`) lists every
addition and subtraction on sizes that each operation performs, in program order; the theorem says
that in every state satisfying the invariant, under the explicit side conditions `ASizes`
(assumption A-sizes), each of them is exact: no carry, no borrow. In particular the model's
truncated `Nat` subtractions never truncate, and limits up to `usize::MAX` with sizes of the same
magnitude are safe — the insertion path forms `max_size - size` and `max_size - current_size`,
never `current_size + size` before it is known to fit.
-/
namespace LruMem

/-- `remove_metadata`: `current_size -= entry.size()` for an entry of the cache, if one was found. -/
theorem removedArith_ok {p : Params} {c : Cache} (h : InvA p c) {x : Option Entry}
    (hx : ∀ e, x = some e → e ∈ c.entries) :
    ∀ a ∈ (match x with | some e => [Arith.sub c.cur e.size] | none => []), a.ok p := by
  cases x with
  | none => exact List.forall_mem_nil _
  | some e => exact List.forall_mem_singleton.mpr (h.weak.size_le_cur (hx e rfl))

/-- **Every arithmetic step of every operation is exact on `usize`**, from any state satisfying the
invariant, for any resolution of hashbrown's choices. -/
theorem C01_arith_safe {p : Params} {c : Cache} (op : Op) (o : Oracle) (h : InvA p c)
    (hs : ASizes p c op) : ∀ a ∈ arithOf p c op o, a.ok p := by
  obtain ⟨hmax, hvsz, hcap, hop⟩ := hs
  have hb := h.bound
  cases op with
  | insert k v =>
    have hcur1 := h.weak.cur_removeId k.id
    have hle := (eject_spec _ _ (c.max - entrySize p k v) hcur1).2.2.1
    simp only [arithOf, forall_mem_ite_iff, List.forall_mem_append, List.forall_mem_singleton, List.not_mem_nil,
      false_implies, implies_true, true_and, Arith.ok_sub]
    -- `entry_size`; if it fits: the replaced entry, `max_size - size`, the evictions, `insert_unchecked`
    exact ⟨sizeArith_ok k v hop, fun hfit => ⟨⟨⟨removedArith_ok h fun e he => (lookup_some_mem he).1,
      Nat.le_of_not_gt hfit⟩, ejectArith_ok p _ _ _ hcur1⟩,
      insertUncheckedArith_ok _ _ _ (Shape.remove_capacity_le _ _ _ (h.weak.removed_le_items ..)) hcap
        (Nat.le_trans (Nat.add_le_of_le_sub (Nat.le_of_not_gt hfit) hle) hmax)⟩⟩
  | tryInsert k v =>
    simp only [arithOf, forall_mem_ite_iff, List.forall_mem_append, List.forall_mem_singleton, List.not_mem_nil,
      false_implies, implies_true, true_and, Arith.ok_sub]
    exact ⟨sizeArith_ok k v hop, fun _ => ⟨hb, fun hfree _ => insertUncheckedArith_ok _ _ _ (Nat.le_refl _) hcap
      (Nat.le_trans (Nat.add_le_of_le_sub' hb (Nat.le_of_not_gt hfree)) hmax)⟩⟩
  | remove id | removeEntry id => exact removedArith_ok h fun e he => (lookup_some_mem he).1
  | removeLru => exact removedArith_ok h fun e => List.mem_of_head?
  | removeMru => exact removedArith_ok h fun e => List.mem_of_getLast?
  | setMaxSize m => exact ejectArith_ok p _ _ _ h.cur
  | mutate id f =>
    simp only [arithOf]
    split
    · exact List.forall_mem_nil _
    · rename_i e he
      have hle := h.weak.size_le_cur (lookup_some_mem he).1
      simp only [he] at hop
      obtain ⟨⟨h1, h2⟩, hg, hsh⟩ := mutate_sizes_ok (b := (f e.val).1.heap) hvsz
        (h.sizes e (lookup_some_mem he).1) hle (Nat.le_trans hb hmax) hop.1
      simp only [forall_mem_ite_iff, List.forall_mem_append, List.forall_mem_cons, List.not_mem_nil, false_implies,
        implies_true, and_true, Arith.ok_sub, Arith.ok_add]
      -- both estimates; growing: `new - old`, `size + diff`, then `current_size -= size` (too large) or
      -- `+= diff` and the evictions; otherwise `old - new`, `size -= diff`, `current_size -= diff`
      exact ⟨⟨h1, h2⟩, fun hgrow => ⟨⟨Nat.le_of_lt hgrow, hg hgrow⟩, fun _ => hle, fun _ =>
        ⟨hop.2 hgrow, ejectArith_ok p _ _ _ (h.weak.grown he _ _).cur⟩⟩,
        fun hgrow => ⟨Nat.le_of_not_gt hgrow, hsh, Nat.le_trans hsh hle⟩⟩
  | retain pr =>
    refine subArith_ok p _ _ ?_
    rw [h.cur, ← retainGo_sum (indexPred pr) 0 c.entries]
    exact Nat.le_add_left _ _
  | _ => exact List.forall_mem_nil _

/-- Along a whole history: if the side conditions hold at every step, every arithmetic step of every
operation of the history is exact. -/
theorem C01_arith_history {p : Params} (max n : Nat) (l : List (Op × Oracle)) (op : Op) (o : Oracle)
    (hs : ASizes p (runOps p (Cache.withCapacity max n) l) op) :
    ∀ a ∈ arithOf p (runOps p (Cache.withCapacity max n) l) op o, a.ok p :=
  C01_arith_safe op o (reachable_inv (reachable_runOps (Reachable.new max n) l)) hs

/-! ### the side conditions are what the code needs, not more: two witnesses

With a limit above `usize::MAX / 2` the *sum* `current_size + entry_size` that a careless fit test
would form does overflow in a reachable state, while everything the code actually computes is fine;
and the one place where the code itself forms such a sum — `current_size += diff` in a growing
`mutate`, before evicting — is exactly the excluded case. -/

private def p64 : Params := ⟨72, 16, 18446744073709551615⟩
private def big : Cache :=
  runOps p64 (Cache.new 18446744073709551615) [(.insert ⟨2, 0, 1⟩ ⟨4611686018427387904, 2⟩, {})]

example : Reachable p64 big := reachable_runOps (Reachable.new _ 0) _
/-- the pair below exists (`entry_size` fits `usize`) and all of `try_insert`'s arithmetic is exact … -/
example : ∀ a ∈ arithOf p64 big (.tryInsert ⟨0, 7, 3⟩ ⟨18446744073709551472, 4⟩) {}, a.ok p64 := by decide +kernel
/-- … although `current_size + entry_size` does not fit `usize` (so the test must be, and is, a subtraction) -/
example : ¬ (Arith.add big.cur (entrySize p64 ⟨0, 7, 3⟩ ⟨18446744073709551472, 4⟩)).ok p64 := by decide +kernel
private def big2 : Cache :=
  runOps p64 (Cache.new 18446744073709551615)
    [(.insert ⟨2, 0, 1⟩ ⟨4611686018427387904, 2⟩, {}), (.insert ⟨3, 0, 3⟩ ⟨4611686018427387904, 4⟩, {})]
private def growBig : Op := .mutate 2 fun v => ({ v with heap := 18446744073709551000 }, 0)

/-- the excluded case: two entries of 2⁶² bytes each; growing one of them to almost `usize::MAX` (the
grown entry alone still fits the limit) makes `current_size += diff` pass `usize::MAX` before the other
entry is evicted -/
example : ¬ ∀ a ∈ arithOf p64 big2 growBig {}, a.ok p64 := by decide +kernel
/-- … and that is precisely what `ASizes` rules out -/
example : ¬ ASizes p64 big2 growBig := fun hs =>
  (by decide : ¬ ∀ a ∈ arithOf p64 big2 growBig {}, a.ok p64)
    (C01_arith_safe growBig {} (reachable_inv (reachable_runOps (Reachable.new _ 0) _)) hs)

end LruMem
