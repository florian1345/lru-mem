import LruMem.Generated.MemDecls
import LruMem.Proofs.MemSize
/-!
# C08 / C09 (continued) — the size-estimation model is the source's, re-checked on every run

`LruMem.GeneratedMem` is regenerated from `/repo/src/mem_size.rs` by `/verif/tools/memdecls.py` on every run: every
`HeapSize` impl with its method bodies as sums of products of atoms, the two macros, the trait defaults, the
`ValueSize`/`MemSize` blanket impls and the flat iterator's `next`. Two layers of theorems:

1. **the regenerated table is the table the model was transcribed from** (`C08_source_*`, by `decide` over the
   whole table) — a change of any body, an added or removed override, a new impl, a recursion re-introduced into
   `SizedArrayFlatIterator::next` breaks one of them;
2. **that table, read with the meaning of the atoms** (`atomHeap` / `atomBulk` below: what each Rust phrase
   computes on a model value) **is the model**: for every row and every value of that shape the interpreted body
   equals `heapSize` / `hsSumIter` / `hsSumExact` of `Model/MemSize.lean` (`C08_row_*`), and a type without an
   override uses the trait default (`C08_default_*`).

Trusted: the translator's phrase recognition (an unknown phrase is `.unknown`, never a guess) and the reading of
each atom.
-/
namespace LruMem
open LruMem.MemDecl LruMem.MemSize

def expectedImpls : List Impl := [
  { target := .array, heap := [[.asSlice]], sumIter := some [[.sliceOfArrays]], sumExact := some [[.flat]] },
  { target := .binaryHeap, heap := [[.exactOver 0], [.cap, .sizeOfElem]], sumIter := none, sumExact := none },
  { target := .box, heap := [[.derefMem]], sumIter := some [[.delegDeref false], [.valueDeref false]],
    sumExact := some [[.delegDeref true], [.valueDeref true]] },
  { target := .cString, heap := [[.lenNul]], sumIter := none, sumExact := none },
  { target := .hashMap, heap := [[.exactOver 1], [.exactOver 2], [.cap, .sizeOfPair], [.hasher]], sumIter := none, sumExact := none },
  { target := .hashSet, heap := [[.exactOver 0], [.cap, .sizeOfElem], [.hasher]], sumIter := none, sumExact := none },
  { target := .mutex, heap := [[.locked]], sumIter := none, sumExact := none },
  { target := .option, heap := [[.matchOpt]], sumIter := none, sumExact := none },
  { target := .osString, heap := [[.cap]], sumIter := none, sumExact := none },
  { target := .path, heap := [[.zero]], sumIter := none, sumExact := none },
  { target := .pathBuf, heap := [[.cap]], sumIter := none, sumExact := none },
  { target := .phantom, heap := [[.zero]], sumIter := none, sumExact := none },
  { target := .range, heap := [[.field 1], [.field 2]], sumIter := none, sumExact := none },
  { target := .rangeFrom, heap := [[.field 1]], sumIter := none, sumExact := none },
  { target := .rangeInclusive, heap := [[.field 1], [.field 2]], sumIter := none, sumExact := none },
  { target := .rangeTo, heap := [[.field 2]], sumIter := none, sumExact := none },
  { target := .rangeToInclusive, heap := [[.field 2]], sumIter := none, sumExact := none },
  { target := .ref, heap := [[.zero]], sumIter := none, sumExact := none },
  { target := .refMut, heap := [[.zero]], sumIter := none, sumExact := none },
  { target := .result, heap := [[.matchRes]], sumIter := none, sumExact := none },
  { target := .rwLock, heap := [[.locked]], sumIter := none, sumExact := none },
  { target := .slice, heap := [[.exactOver 0]], sumIter := none, sumExact := none },
  { target := .string, heap := [[.cap]], sumIter := none, sumExact := none },
  { target := .vec, heap := [[.asSlice], [.cap, .sizeOfElem]], sumIter := none, sumExact := none },
  { target := .wrapping, heap := [[.field 0]], sumIter := some [[.delegField false]], sumExact := some [[.delegField true]] }
]

/-- Every `impl … HeapSize for …` of the source, with every method body, is the one the model was written from. -/
theorem C08_source_impls : GeneratedMem.impls = expectedImpls := by decide +kernel

/-- `basic_mem_size!` makes all three methods the constant 0, and is used for `str`, `CStr`, `OsStr` among its types. -/
theorem C08_source_basic :
    GeneratedMem.basicBodies = [[[.zero]], [[.zero]], [[.zero]]] ∧ GeneratedMem.basicHasStrLikes = true ∧
    16 ≤ GeneratedMem.basicCount := by decide +kernel

/-- The tuple macro sums component-wise, each bulk helper through the component type's helper of the same kind on
the projected iterator, for arities 1 to 10. -/
theorem C08_source_tuples :
    GeneratedMem.tupleMacroOk = true ∧ GeneratedMem.tupleArities = [1, 2, 3, 4, 5, 6, 7, 8, 9, 10] := by decide +kernel

/-- The trait defaults: `heap_size_sum_iter` maps and sums, the exact-size variant delegates to it; likewise for
`ValueSize`; sized types multiply `size_of` by `count()` / `len()`; unsized ones use `size_of_val`;
`mem_size = value_size + heap_size`. -/
theorem C08_source_defaults :
    GeneratedMem.heapDefaults = [[[.mapHeapSum]], [[.viaSumIter]]] ∧
    GeneratedMem.valueDefaults = [[[.mapValueSum]], [[.viaValueSumIter]]] ∧
    GeneratedMem.sizedValue = [[[.sizeOfSelf]], [[.iterCount, .sizeOfSelf]], [[.iterLen, .sizeOfSelf]]] ∧
    GeneratedMem.memSizeBody = [[.heapSize], [.valueSize]] ∧
    GeneratedMem.unsizedValue = List.replicate GeneratedMem.unsizedValueCount [[.sizeOfVal]] ∧
    GeneratedMem.unsizedValueCount = 5 := by decide +kernel

/-- `SizedArrayFlatIterator::next` is a loop and never calls itself (C08's "without exhausting the stack"; the
model's `Flat.next` has call depth 1). -/
theorem C08_source_flat_loops : GeneratedMem.flatNextLoops = true := by decide +kernel

def capOf : TVal → Nat
  | .buf c | .coll c _ | .set c _ _ | .map c _ _ _ => c
  | _ => 0

/-- The value of an atom inside `heap_size(&self)` for `self = v : t`. -/
def atomHeap (t : Ty) (v : TVal) : Atom → Nat
  | .zero => 0
  | .cap => capOf v
  | .lenNul => capOf v
  | .sizeOfElem => match t with
    | .vec _ e | .binaryHeap _ e | .hashSet _ e _ => e.size
    | _ => 0
  | .sizeOfPair => match t with
    | .hashMap _ esz _ _ _ => esz
    | _ => 0
  | .field i => match t, v with
    | .wrapping _ e, .wrap x => heapSize e x
    | .range2 _ e, .two a b => if i = 1 then heapSize e a else heapSize e b
    | .range1 _ e, .one a => heapSize e a
    | _, _ => 0
  | .asSlice => match t, v with
    | .vec _ e, .coll _ vs => heapSize (.slice e) (.seq vs)
    | .array _ _ e, .seq vs => heapSize (.slice e) (.seq vs)
    | _, _ => 0
  | .exactOver i => match t, v with
    | .slice e, .seq vs => hsSumExact e vs
    | .binaryHeap _ e, .coll _ vs => hsSumExact e vs
    | .hashSet _ e _, .set _ vs _ => hsSumExact e vs
    | .hashMap _ _ k w _, .map _ ks vs _ => if i = 1 then hsSumExact k ks else hsSumExact w vs
    | _, _ => 0
  | .hasher => match t, v with
    | .hashSet _ _ s, .set _ _ h => heapSize s h
    | .hashMap _ _ _ _ s, .map _ _ _ h => heapSize s h
    | _, _ => 0
  | .derefMem => match t, v with
    | .box _ e, .box x => memSize e x
    | _, _ => 0
  | .locked => match t, v with
    | .lock _ e, .wrap x => heapSize e x
    | _, _ => 0
  | .matchOpt => match t, v with
    | .option _ e, .some x => heapSize e x
    | _, _ => 0
  | .matchRes => match t, v with
    | .result _ e _, .ok x => heapSize e x
    | .result _ _ e, .err x => heapSize e x
    | _, _ => 0
  | _ => 0

def prodOf (f : Atom → Nat) : List Atom → Nat
  | [] => 1
  | a :: as => f a * prodOf f as

def evalBody (f : Atom → Nat) : Body → Nat
  | [] => 0
  | p :: ps => prodOf f p + evalBody f ps

/-- The value of an atom inside a bulk helper of `t` called on an iterator yielding `vs`. -/
def atomBulk (t : Ty) (vs : List TVal) : Atom → Nat
  | .zero => 0
  | .delegField ex => match t with
    | .wrapping _ e => if ex then hsSumExact e (unwrapW vs) else hsSumIter e (unwrapW vs)
    | _ => 0
  | .sliceOfArrays => match t with
    | .array _ _ e => hsSumIter (.slice e) vs
    | _ => 0
  | .delegDeref ex => match t with
    | .box _ e => if ex then hsSumExact e (unwrapB vs) else hsSumIter e (unwrapB vs)
    | _ => 0
  | .valueDeref ex => match t with
    | .box _ e => if ex then vsSumExact e (unwrapB vs) else vsSumIter e (unwrapB vs)
    | _ => 0
  | .flat => match t with
    | .array _ _ e => hsSumExact e (vs.flatMap elemsOf)
    | _ => 0
  | _ => 0

def rowOf (tg : Target) : Impl := (expectedImpls.find? (·.target == tg)).getD default

theorem evalBody_atom (f : Atom → Nat) (a : Atom) : evalBody f [[a]] = f a :=
  (Nat.add_zero _).trans (Nat.mul_one _)

theorem evalBody_atom2 (f : Atom → Nat) (a b : Atom) : evalBody f [[a], [b]] = f a + f b := by
  show f a * 1 + evalBody f [[b]] = _
  rw [evalBody_atom, Nat.mul_one]

/-! ### `heap_size`, row by row (every value of the row's shape)

`rowOf tg` and the atoms evaluate by computation: a row whose body is one atom is `evalBody_atom`, the others are
first `show`n as the arithmetic expression the body stands for. -/

theorem C08_row_string (sz c : Nat) :
    evalBody (atomHeap (.stringLike sz) (.buf c)) (rowOf .string).heap = heapSize (.stringLike sz) (.buf c) ∧
    evalBody (atomHeap (.stringLike sz) (.buf c)) (rowOf .osString).heap = heapSize (.stringLike sz) (.buf c) ∧
    evalBody (atomHeap (.stringLike sz) (.buf c)) (rowOf .pathBuf).heap = heapSize (.stringLike sz) (.buf c) := by
  rw [heapSize.eq_def]
  exact ⟨evalBody_atom _ .cap, evalBody_atom _ .cap, evalBody_atom _ .cap⟩

theorem C08_row_cstring (sz n : Nat) :
    evalBody (atomHeap (.cString sz) (.buf n)) (rowOf .cString).heap = heapSize (.cString sz) (.buf n) := by
  rw [heapSize.eq_def]
  exact evalBody_atom _ .lenNul

theorem C08_row_zero (t : Ty) (v : TVal) :
    evalBody (atomHeap t v) (rowOf .path).heap = 0 ∧ evalBody (atomHeap t v) (rowOf .phantom).heap = 0 ∧
    evalBody (atomHeap t v) (rowOf .ref).heap = 0 ∧ evalBody (atomHeap t v) (rowOf .refMut).heap = 0 :=
  ⟨evalBody_atom _ .zero, evalBody_atom _ .zero, evalBody_atom _ .zero, evalBody_atom _ .zero⟩

theorem C08_row_wrapping (sz : Nat) (e : Ty) (x : TVal) :
    evalBody (atomHeap (.wrapping sz e) (.wrap x)) (rowOf .wrapping).heap = heapSize (.wrapping sz e) (.wrap x) := by
  rw [heapSize.eq_def]
  exact evalBody_atom _ (.field 0)

theorem C08_row_slice (e : Ty) (vs : List TVal) :
    evalBody (atomHeap (.slice e) (.seq vs)) (rowOf .slice).heap = heapSize (.slice e) (.seq vs) := by
  rw [heapSize.eq_def]
  exact evalBody_atom _ (.exactOver 0)

theorem C08_row_array (sz n : Nat) (e : Ty) (vs : List TVal) :
    evalBody (atomHeap (.array sz n e) (.seq vs)) (rowOf .array).heap = heapSize (.array sz n e) (.seq vs) := by
  rw [heapSize.eq_def]
  exact (evalBody_atom _ .asSlice).trans (heapSize.eq_def ..)

theorem C08_row_vec (sz cap : Nat) (e : Ty) (vs : List TVal) :
    evalBody (atomHeap (.vec sz e) (.coll cap vs)) (rowOf .vec).heap = heapSize (.vec sz e) (.coll cap vs) := by
  show heapSize (.slice e) (.seq vs) * 1 + (cap * (e.size * 1) + 0) = _
  simp only [heapSize.eq_def (.vec ..), heapSize.eq_def (.slice _), Nat.mul_one, Nat.add_zero]

theorem C08_row_binaryHeap (sz cap : Nat) (e : Ty) (vs : List TVal) :
    evalBody (atomHeap (.binaryHeap sz e) (.coll cap vs)) (rowOf .binaryHeap).heap =
      heapSize (.binaryHeap sz e) (.coll cap vs) := by
  show hsSumExact e vs * 1 + (cap * (e.size * 1) + 0) = _
  simp only [heapSize.eq_def (.binaryHeap ..), Nat.mul_one, Nat.add_zero]

theorem C08_row_hashSet (sz cap : Nat) (e s : Ty) (vs : List TVal) (h : TVal) :
    evalBody (atomHeap (.hashSet sz e s) (.set cap vs h)) (rowOf .hashSet).heap =
      heapSize (.hashSet sz e s) (.set cap vs h) := by
  show hsSumExact e vs * 1 + (cap * (e.size * 1) + (heapSize s h * 1 + 0)) = _
  simp only [heapSize.eq_def (.hashSet ..), Nat.mul_one]
  omega

theorem C08_row_hashMap (sz esz cap : Nat) (k w s : Ty) (ks vs : List TVal) (h : TVal) :
    evalBody (atomHeap (.hashMap sz esz k w s) (.map cap ks vs h)) (rowOf .hashMap).heap =
      heapSize (.hashMap sz esz k w s) (.map cap ks vs h) := by
  show hsSumExact k ks * 1 + (hsSumExact w vs * 1 + (cap * (esz * 1) + (heapSize s h * 1 + 0))) = _
  simp only [heapSize.eq_def (.hashMap ..), Nat.mul_one]
  omega

theorem C08_row_box (sz : Nat) (e : Ty) (x : TVal) :
    evalBody (atomHeap (.box sz e) (.box x)) (rowOf .box).heap = heapSize (.box sz e) (.box x) := by
  rw [heapSize.eq_def]
  exact evalBody_atom _ .derefMem

theorem C08_row_lock (sz : Nat) (e : Ty) (x : TVal) :
    evalBody (atomHeap (.lock sz e) (.wrap x)) (rowOf .mutex).heap = heapSize (.lock sz e) (.wrap x) ∧
    evalBody (atomHeap (.lock sz e) (.wrap x)) (rowOf .rwLock).heap = heapSize (.lock sz e) (.wrap x) := by
  rw [heapSize.eq_def]
  exact ⟨evalBody_atom _ .locked, evalBody_atom _ .locked⟩

theorem C08_row_option (sz : Nat) (e : Ty) (x : TVal) :
    evalBody (atomHeap (.option sz e) (.some x)) (rowOf .option).heap = heapSize (.option sz e) (.some x) ∧
    evalBody (atomHeap (.option sz e) .none) (rowOf .option).heap = heapSize (.option sz e) .none := by
  rw [heapSize.eq_def, heapSize.eq_def (.option ..) .none]
  exact ⟨evalBody_atom _ .matchOpt, evalBody_atom _ .matchOpt⟩

theorem C08_row_result (sz : Nat) (e f : Ty) (x : TVal) :
    evalBody (atomHeap (.result sz e f) (.ok x)) (rowOf .result).heap = heapSize (.result sz e f) (.ok x) ∧
    evalBody (atomHeap (.result sz e f) (.err x)) (rowOf .result).heap = heapSize (.result sz e f) (.err x) := by
  rw [heapSize.eq_def, heapSize.eq_def (.result ..) (.err x)]
  exact ⟨evalBody_atom _ .matchRes, evalBody_atom _ .matchRes⟩

theorem C08_row_range (sz : Nat) (e : Ty) (a b : TVal) :
    evalBody (atomHeap (.range2 sz e) (.two a b)) (rowOf .range).heap = heapSize (.range2 sz e) (.two a b) ∧
    evalBody (atomHeap (.range2 sz e) (.two a b)) (rowOf .rangeInclusive).heap = heapSize (.range2 sz e) (.two a b) ∧
    evalBody (atomHeap (.range1 sz e) (.one a)) (rowOf .rangeFrom).heap = heapSize (.range1 sz e) (.one a) ∧
    evalBody (atomHeap (.range1 sz e) (.one a)) (rowOf .rangeTo).heap = heapSize (.range1 sz e) (.one a) ∧
    evalBody (atomHeap (.range1 sz e) (.one a)) (rowOf .rangeToInclusive).heap = heapSize (.range1 sz e) (.one a) := by
  rw [heapSize.eq_def, heapSize.eq_def (.range1 ..)]
  exact ⟨evalBody_atom2 .., evalBody_atom2 .., evalBody_atom .., evalBody_atom .., evalBody_atom ..⟩

theorem C08_row_wrapping_bulk (sz : Nat) (e : Ty) (vs : List TVal) :
    ((rowOf .wrapping).sumIter.map (evalBody (atomBulk (.wrapping sz e) vs))) = some (hsSumIter (.wrapping sz e) vs) ∧
    ((rowOf .wrapping).sumExact.map (evalBody (atomBulk (.wrapping sz e) vs))) = some (hsSumExact (.wrapping sz e) vs) := by
  rw [hsSumExact.eq_def]
  exact ⟨congrArg some (evalBody_atom ..), congrArg some (evalBody_atom ..)⟩

theorem C08_row_box_bulk (sz : Nat) (e : Ty) (vs : List TVal) :
    ((rowOf .box).sumIter.map (evalBody (atomBulk (.box sz e) vs))) = some (hsSumIter (.box sz e) vs) ∧
    ((rowOf .box).sumExact.map (evalBody (atomBulk (.box sz e) vs))) = some (hsSumExact (.box sz e) vs) := by
  rw [hsSumExact.eq_def]
  exact ⟨congrArg some (evalBody_atom2 ..), congrArg some (evalBody_atom2 ..)⟩

theorem C08_row_array_bulk (sz n : Nat) (e : Ty) (vs : List TVal) :
    ((rowOf .array).sumIter.map (evalBody (atomBulk (.array sz n e) vs))) = some (hsSumIter (.array sz n e) vs) ∧
    ((rowOf .array).sumExact.map (evalBody (atomBulk (.array sz n e) vs))) = some (hsSumExact (.array sz n e) vs) := by
  rw [hsSumExact.eq_def]
  exact ⟨congrArg some (evalBody_atom ..), congrArg some (evalBody_atom ..)⟩

/-- Exactly three impls override the bulk helpers; for every other constructor the model uses the trait default
(`make_iter().map(HeapSize::heap_size).sum()`, the exact-size variant delegating to it). -/
theorem C08_default_helpers :
    (expectedImpls.filter (fun r => r.sumIter.isSome || r.sumExact.isSome)).map (·.target) = [.array, .box, .wrapping] := by
  decide +kernel

theorem C08_default_model (vs : List TVal) (sz cap : Nat) (e s k w : Ty) :
    hsSumIter (.stringLike sz) vs = hsDefault (.stringLike sz) vs ∧ hsSumExact (.stringLike sz) vs = hsDefault (.stringLike sz) vs ∧
    hsSumIter (.vec sz e) vs = hsDefault (.vec sz e) vs ∧ hsSumExact (.vec sz e) vs = hsDefault (.vec sz e) vs ∧
    hsSumIter (.option sz e) vs = hsDefault (.option sz e) vs ∧ hsSumExact (.option sz e) vs = hsDefault (.option sz e) vs ∧
    hsSumIter (.result sz e s) vs = hsDefault (.result sz e s) vs ∧ hsSumExact (.result sz e s) vs = hsDefault (.result sz e s) vs ∧
    hsSumIter (.hashMap sz cap k w s) vs = hsDefault (.hashMap sz cap k w s) vs ∧
    hsSumIter (.slice e) vs = hsDefault (.slice e) vs ∧ hsSumIter (.lock sz e) vs = hsDefault (.lock sz e) vs ∧
    hsSumIter (.range2 sz e) vs = hsDefault (.range2 sz e) vs ∧ hsSumIter (.binaryHeap sz e) vs = hsDefault (.binaryHeap sz e) vs ∧
    hsSumIter (.user sz) vs = hsDefault (.user sz) vs ∧ hsSumExact (.user sz) vs = hsDefault (.user sz) vs := by
  simp only [hs_eq, and_self]

/-- The value of an atom inside a *default* bulk helper of `t` (or the `Sized` blanket impl) called on an iterator
yielding `vs`: `make_iter().map(HeapSize::heap_size).sum()`, `Self::heap_size_sum_iter(make_iter)`, the same two
for `ValueSize`, `mem::size_of::<Self>()`, `iterator.count()`, `iterator.len()`. -/
def atomDefault (t : Ty) (vs : List TVal) : Atom → Nat
  | .mapHeapSum => hsDefault t vs
  | .viaSumIter => hsSumIter t vs
  | .mapValueSum => vsDefault t vs
  | .viaValueSumIter => vsSumIter t vs
  | .sizeOfSelf => t.size
  | .iterCount => vs.length
  | .iterLen => vs.length
  | _ => 0

theorem heapDefaults_model (t : Ty) (vs : List TVal) :
    GeneratedMem.heapDefaults.map (evalBody (atomDefault t vs)) = [hsSumIter t vs, hsSumExact t vs] := by
  rw [C08_source_defaults.1]
  simp only [List.map, evalBody_atom]
  show [hsDefault t vs, hsSumIter t vs] = _
  rw [(hs_eq t vs).1, (hs_eq t vs).2]

theorem valueDefaults_model (t : Ty) (vs : List TVal) :
    GeneratedMem.valueDefaults.map (evalBody (atomDefault t vs)) = [vsDefault t vs, vsSumIter t vs] := by
  rw [C08_source_defaults.2.1]
  simp only [List.map, evalBody_atom]
  rfl

theorem sizedValue_model (t : Ty) (vs : List TVal) :
    (GeneratedMem.sizedValue.drop 1).map (evalBody (atomDefault t vs)) = [t.size * vs.length, t.size * vs.length] := by
  rw [C08_source_defaults.2.2.1]
  show [vs.length * (t.size * 1) + 0, vs.length * (t.size * 1) + 0] = _
  rw [Nat.add_zero, Nat.mul_one, Nat.mul_comm]

/-- For a type without overrides (here: the owned string types, `Vec`, `Option`, a user-defined type) the trait's
default bodies, as regenerated from the source, are the model's helpers. -/
theorem C08_defaults_are_the_model (vs : List TVal) (sz : Nat) (e : Ty) :
    (GeneratedMem.heapDefaults.map (evalBody (atomDefault (.stringLike sz) vs))) =
      [hsSumIter (.stringLike sz) vs, hsSumExact (.stringLike sz) vs] ∧
    (GeneratedMem.heapDefaults.map (evalBody (atomDefault (.vec sz e) vs))) = [hsSumIter (.vec sz e) vs, hsSumExact (.vec sz e) vs] ∧
    (GeneratedMem.heapDefaults.map (evalBody (atomDefault (.option sz e) vs))) =
      [hsSumIter (.option sz e) vs, hsSumExact (.option sz e) vs] ∧
    (GeneratedMem.heapDefaults.map (evalBody (atomDefault (.user sz) vs))) = [hsSumIter (.user sz) vs, hsSumExact (.user sz) vs] :=
  ⟨heapDefaults_model _ vs, heapDefaults_model _ vs, heapDefaults_model _ vs, heapDefaults_model _ vs⟩

/-- The `Sized` blanket impl multiplies `size_of` by the number of items (`count()` / `len()`), the unsized types and
a user-defined unsized type sum `value_size` element-wise — as the model's `vsSumIter` / `vsSumExact` do. -/
theorem C08_value_defaults_are_the_model (vs : List TVal) (sz : Nat) (e : Ty) :
    ((GeneratedMem.sizedValue.drop 1).map (evalBody (atomDefault (.vec sz e) vs))) = [vsSumIter (.vec sz e) vs, vsSumExact (.vec sz e) vs] ∧
    (GeneratedMem.valueDefaults.map (evalBody (atomDefault .strLike vs))) = [vsSumIter .strLike vs, vsSumExact .strLike vs] ∧
    (GeneratedMem.valueDefaults.map (evalBody (atomDefault (.slice e) vs))) = [vsSumIter (.slice e) vs, vsSumExact (.slice e) vs] ∧
    (GeneratedMem.valueDefaults.map (evalBody (atomDefault .userDyn vs))) = [vsSumIter .userDyn vs, vsSumExact .userDyn vs] :=
  -- `vsSumIter` / `vsSumExact` are not recursive: at a given type they are `size * length` or `vsDefault` by computation
  ⟨sizedValue_model _ vs, valueDefaults_model _ vs, valueDefaults_model _ vs, valueDefaults_model _ vs⟩

/-- `mem_size = value_size + heap_size` is what the regenerated blanket impl says. -/
theorem C08_mem_size_body (t : Ty) (v : TVal) :
    evalBody (fun a => match a with | .valueSize => valueSize t v | .heapSize => heapSize t v | _ => 0) GeneratedMem.memSizeBody =
      memSize t v := by
  rw [C08_source_defaults.2.2.2.1]
  exact (evalBody_atom2 _ .heapSize .valueSize).trans (Nat.add_comm ..)

/-! ### non-vacuity: the table has 25 rows, no unknown phrase -/
example : expectedImpls.length = 25 := by decide +kernel
example : GeneratedMem.impls.all (fun r =>
    (r.heap ++ (r.sumIter.getD []) ++ (r.sumExact.getD [])).all (fun p => p.all (fun a => match a with | .unknown _ => false | _ => true))) = true := by
  decide +kernel

end LruMem
