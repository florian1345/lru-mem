import LruMem.Proofs.Reach
/-!
# C20 — hashing work per operation is bounded independently of the cache size

`hashCount evs` = number of `Hash::hash` invocations on keys (probe or stored) during the step.
An entry *leaves* during a step when its key object is dropped by the cache or handed back to the
caller; `leaves` counts that from the step's own events and output.
-/
namespace LruMem

def dropKCount : List Ev → Nat
  | [] => 0
  | .dropK _ :: l => dropKCount l + 1
  | _ :: l => dropKCount l

/-- number of entries that leave the cache during a step -/
def leaves (r : Res) : Nat :=
  dropKCount r.evs + (match r.out with | .ownPair (some _) => 1 | .mutTooLarge .. => 1 | _ => 0)

def rebuiltN (r : Res) : Nat := match r.rebuilt with | some n => n | none => 0

@[simp] theorem dropKCount_append (a b : List Ev) : dropKCount (a ++ b) = dropKCount a + dropKCount b :=
  evCount_append rfl (fun e _ => by cases e <;> rfl) a b

@[simp] theorem dropKCount_evict (l : List Entry) : dropKCount (evictAllEvs l) = l.length :=
  (evCount_flatMap rfl dropKCount_append evictEvs 1 (fun _ => rfl) l).trans (Nat.one_mul _)

@[simp] theorem dropKCount_rehash (l : List Entry) : dropKCount (rehashEvs l) = 0 := by
  induction l with
  | nil => rfl
  | cons e l ih => exact ih

/-- A table rebuild hashes each held entry exactly once. -/
theorem C20_realloc_once (c : Cache) (n : Nat) : hashCount (rebuild c n).2 = c.entries.length := by
  simp [rebuild]

theorem rebuiltN_eq (r : Res) : rebuiltN r = r.rebuilt.getD 0 := by
  unfold rebuiltN; cases r.rebuilt <;> rfl

theorem insertUnchecked_hash (c : Cache) (e : Entry) (o : Oracle) :
    hashCount (insertUnchecked c e o).evs = (insertUnchecked c e o).rebuilt.getD 0 ∧
    (insertUnchecked c e o).rebuilt.getD 0 ≤ c.entries.length ∧ dropKCount (insertUnchecked c e o).evs = 0 := by
  rcases insertUnchecked_cases c e o with ⟨-, eq⟩ | ⟨-, eq⟩ <;> rw [eq]
  · exact ⟨rfl, Nat.zero_le _, rfl⟩
  · exact ⟨hashCount_rehash _, Nat.le_refl _, dropKCount_rehash _⟩

/-- The bound of this file for one result `r` of an operation on `c`: at most two hashes, plus one per entry that
leaves, plus — only when the table is rebuilt — one per entry held at the rebuild, all of which were held before. -/
structure HashBounded (c : Cache) (r : Res) : Prop where
  bound : hashCount r.evs ≤ 2 + leaves r + rebuiltN r
  rebuilt_le : rebuiltN r ≤ c.entries.length

theorem HashBounded.of_le_two {c : Cache} {r : Res} (h : hashCount r.evs ≤ 2) (hr : r.rebuilt = none) : HashBounded c r :=
  ⟨Nat.le_trans h (Nat.le_trans (Nat.le_add_right ..) (Nat.le_add_right ..)), by rw [rebuiltN, hr]; exact Nat.zero_le _⟩

theorem HashBounded.of_eq_dropK {c : Cache} {r : Res} (h : hashCount r.evs = dropKCount r.evs) (hr : r.rebuilt = none) :
    HashBounded c r :=
  ⟨h ▸ Nat.le_trans (Nat.le_add_right ..) (Nat.le_trans (Nat.le_add_left ..) (Nat.le_add_right ..)),
    by rw [rebuiltN, hr]; exact Nat.zero_le _⟩

theorem HashBounded.of_eq_rebuilt {c : Cache} {r : Res} (h : hashCount r.evs = rebuiltN r ∧ rebuiltN r ≤ c.entries.length) :
    HashBounded c r :=
  ⟨h.1 ▸ Nat.le_add_left .., h.2⟩

/-- Lookups, `touch`, removals by key: exactly one hash. -/
theorem C20_one (c : Cache) (id : Nat) (o : Oracle) :
    hashCount (get c id).evs = 1 ∧ hashCount (getEntry c id).evs = 1 ∧ hashCount (touch c id).evs = 1 ∧
    hashCount (peek c id).evs = 1 ∧ hashCount (peekEntry c id).evs = 1 ∧ hashCount (contains c id).evs = 1 ∧
    hashCount (remove c id o).evs = 1 ∧ hashCount (removeEntry c id o).evs = 1 := by
  refine ⟨?_, ?_, ?_, rfl, rfl, rfl, ?_, ?_⟩
  · simp only [get, getEntry]; split <;> rfl
  · simp only [getEntry]; split <;> rfl
  · simp only [touch, getEntry]; split <;> rfl
  · simp only [remove]; split <;> rfl
  · simp only [removeEntry]; split <;> rfl

/-- `remove_lru` / `remove_mru`: one hash (of the stored key) when there is an entry, none otherwise. -/
theorem C20_ends (c : Cache) (o : Oracle) :
    hashCount (removeLru c o).evs = (if c.entries = [] then 0 else 1) ∧
    hashCount (removeMru c o).evs = (if c.entries = [] then 0 else 1) := by
  have one : ∀ id, hashCount (removeEntry c id o).evs = 1 := fun id => (C20_one c id o).2.2.2.2.2.2.2
  constructor
  · rw [removeLru, lruOf]
    cases c.entries with
    | nil => rfl
    | cons a l => exact one a.key.id
  · rcases List.eq_nil_or_concat c.entries with h | ⟨l, a, h⟩
    · rw [removeMru, mruOf, h]; rfl
    · rw [removeMru, mruOf, h, List.concat_eq_append, List.getLast?_concat, if_neg (List.concat_ne_nil _ _)]
      exact one a.key.id

theorem hashCount_yield (kind : IterKind) (ys : List (Option Entry)) : hashCount (yieldEvs kind ys) = 0 := by
  cases kind with
  | intoKeys | intoValues =>
    induction ys with
    | nil => rfl
    | cons y ys ih => cases y <;> exact ih
  | _ => rfl

/-- Traversals (all seven iterator kinds, any calls, dropped or leaked), `clear`, `Debug`, the
LRU/MRU peeks and `get_lru` hash nothing. -/
theorem C20_zero (p : Params) (c : Cache) (o : Oracle) (kind : IterKind) (calls : List Bool) (fg : Bool) :
    hashCount (getLru c).evs = 0 ∧ hashCount (peekLru c).evs = 0 ∧ hashCount (peekMru c).evs = 0 ∧
    hashCount (clear c).evs = 0 ∧ hashCount (step p c .debugFmt o).evs = 0 ∧
    hashCount (iterScenario c kind calls fg).evs = 0 ∧ hashCount (dropCache c) = 0 := by
  refine ⟨?_, rfl, rfl, hashCount_dropAll _, rfl, ?_, hashCount_dropAll _⟩
  · simp only [getLru]; split <;> rfl
  · cases hk : kind.borrowing
    · rw [(iterScenario_owning hk c calls fg).1, hashCount_append, hashCount_yield, Nat.zero_add]
      cases fg
      · exact hashCount_dropAll _
      · rfl
    · simp only [iterScenario, hk]; rfl

/-- `insert`: at most one hash for the key, one per eviction, and one per held entry when the table grows. -/
theorem C20_insert {p : Params} {c : Cache} (k : Key) (v : Val) (o : Oracle) (h : InvW c) :
    HashBounded c (insert p c k v o) := by
  by_cases hs : entrySize p k v ≤ c.max
  · obtain ⟨a, b, d⟩ := insertUnchecked_hash (c.madeRoom k.id (c.max - entrySize p k v) o.tombs) ⟨k, v, entrySize p k v⟩ o
    rw [insert_eq k v o h hs]
    constructor
    · -- hashes: 1 + evicted + rebuilt; leaves: evicted, + 1 if an entry of that key was replaced
      simp only [leaves, rebuiltN_eq, hashCount_append, dropKCount_append, hashCount_evict, dropKCount_evict, a, d]
      cases lookup c.entries k.id <;> simp only [hashCount, dropKCount] <;> omega
    · rw [rebuiltN_eq]
      exact Nat.le_trans b (madeRoom_length c.entries k.id (c.cur - oldSize (lookup c.entries k.id)) _ ▸ Nat.le_add_left _ _)
  · rw [insert_too_large k v o (Nat.lt_of_not_le hs)]; exact .of_le_two (Nat.zero_le _) rfl

theorem C20_tryInsert {p : Params} {c : Cache} (k : Key) (v : Val) (o : Oracle) :
    HashBounded c (tryInsert p c k v o) := by
  rcases tryInsert_cases p c k v o with ⟨out, evs, e, -, -, hh⟩ | ⟨-, -, e⟩ <;> rw [e]
  · exact .of_le_two (Nat.le_succ_of_le hh) rfl
  · obtain ⟨a, b, d⟩ := insertUnchecked_hash c ⟨k, v, entrySize p k v⟩ o
    constructor
    · simp only [leaves, rebuiltN_eq, hashCount_append, dropKCount_append, a, d, hashCount, dropKCount]; omega
    · rw [rebuiltN_eq]; exact b

theorem hashCount_mutatePre (id : Nat) (v v' : Val) :
    hashCount (mutatePre id v v') = 1 ∧ dropKCount (mutatePre id v v') = 0 := by
  unfold mutatePre; split <;> exact ⟨rfl, rfl⟩

/-- `mutate`: at most 1 hash (absent, shrinking, same size), 1 + evictions (growing), 2 on overflow. -/
theorem C20_mutate {p : Params} {c : Cache} (id : Nat) (f : Val → Val × Nat) (o : Oracle) :
    HashBounded c (mutate p c id f o) := by
  rcases mutate_cases p c id f o with ⟨-, eq⟩ | ⟨e, d, -, -, -, -, eq⟩ | ⟨e, d, -, -, -, -, eq⟩ | ⟨e, d, -, -, -, eq⟩ <;> rw [eq]
  · exact .of_le_two (Nat.le_succ 1) rfl
  all_goals obtain ⟨h1, h2⟩ := hashCount_mutatePre id e.val (f e.val).1
  · exact .of_le_two (by simp only [hashCount_append, h1]; exact Nat.le_refl 2) rfl
  · refine ⟨?_, Nat.zero_le _⟩
    simp only [leaves, rebuiltN, setMaxSize, hashCount_append, dropKCount_append, hashCount_evict, dropKCount_evict, h1, h2]
    omega
  · exact .of_le_two (h1 ▸ Nat.le_succ 1) rfl

theorem retain_hash {σ : Type} (pr : σ → Key → Val → Bool × σ) (st : σ) (l : List Entry) :
    hashCount (retainGo pr st l).evs = (retainGo pr st l).removed.length ∧
    dropKCount (retainGo pr st l).evs = (retainGo pr st l).removed.length := by
  induction l generalizing st with
  | nil => exact ⟨rfl, rfl⟩
  | cons e l ih =>
    obtain ⟨a, b⟩ := ih (pr st e.key e.val).2
    cases hd : (pr st e.key e.val).1 <;> simp only [retainGo, hd, Bool.false_eq_true, ↓reduceIte]
    · exact ⟨congrArg (· + 1) a, congrArg (· + 1) b⟩
    · exact ⟨a, b⟩

/-- `set_max_size` hashes once per eviction, `retain` once per rejected entry. -/
theorem C20_setMaxSize (c : Cache) (m : Nat) (o : Oracle) :
    hashCount (setMaxSize c m o).evs = (eject c.entries c.cur m).evicted.length ∧
    hashCount (setMaxSize c m o).evs = dropKCount (setMaxSize c m o).evs :=
  ⟨hashCount_evict _, (hashCount_evict _).trans (dropKCount_evict _).symm⟩

theorem C20_retain {σ : Type} (c : Cache) (o : Oracle) (pr : σ → Key → Val → Bool × σ) (st : σ) :
    hashCount (retain c pr st o).evs = (retainGo pr st c.entries).removed.length ∧
    hashCount (retain c pr st o).evs = dropKCount (retain c pr st o).evs :=
  ⟨(retain_hash pr st c.entries).1, (retain_hash pr st c.entries).1.trans (retain_hash pr st c.entries).2.symm⟩

theorem hash_resized {c : Cache} {reqs : List Nat} {r : Res} (hr : Resized c reqs r) :
    hashCount r.evs = rebuiltN r ∧ rebuiltN r ≤ c.entries.length := by
  cases hr with
  | same => exact ⟨rfl, Nat.zero_le _⟩
  | rebuilt => exact ⟨hashCount_rehash _, Nat.le_refl _⟩

/-- Capacity operations hash each held entry once iff they rebuild the table, else nothing. -/
theorem C20_capacity (p : Params) (c : Cache) (a : Nat) (o : Oracle) :
    (hashCount (reserve p c a o).evs = rebuiltN (reserve p c a o) ∧ rebuiltN (reserve p c a o) ≤ c.entries.length) ∧
    (hashCount (tryReserve p c a o).evs = rebuiltN (tryReserve p c a o) ∧ rebuiltN (tryReserve p c a o) ≤ c.entries.length) ∧
    (hashCount (shrinkTo p c a o).evs = rebuiltN (shrinkTo p c a o) ∧ rebuiltN (shrinkTo p c a o) ≤ c.entries.length) ∧
    (hashCount (shrinkToFit p c o).evs = rebuiltN (shrinkToFit p c o) ∧ rebuiltN (shrinkToFit p c o) ≤ c.entries.length) :=
  ⟨hash_resized (reserve_resized p c a o), hash_resized (tryReserve_resized p c a o),
    hash_resized (shrinkTo_resized p c a o), hash_resized (shrinkTo_resized p c 0 o)⟩

theorem hashCount_cloneEvs (l : List Entry) (b : Nat) : hashCount (cloneEvs l b) = l.length := by
  induction l generalizing b with
  | nil => rfl
  | cons e l ih => simp [cloneEvs, hashCount, ih]

/-- `clone` hashes each copied entry exactly once (it builds a table). -/
theorem C20_clone (c : Cache) (base : Nat) : hashCount (clone c base).2.1 = c.entries.length := by
  simp [clone, hashCount_cloneEvs]

theorem hashBounded_simple {c : Cache} {o : Oracle} {r : Res} (hs : Simple c o r) : HashBounded c r :=
  .of_le_two (Nat.le_succ_of_le hs.hash_le.1) hs.hash_le.2

theorem C20_step {p : Params} {c : Cache} (op : Op) (o : Oracle) (h : InvW c) : HashBounded c (step p c op o) := by
  cases op with
  | insert k v => exact C20_insert k v o h
  | tryInsert k v => exact C20_tryInsert k v o
  | mutate id f => exact C20_mutate id f o
  | setMaxSize m => exact .of_eq_dropK (C20_setMaxSize c m o).2 rfl
  | retain pr => exact .of_eq_dropK (C20_retain c o (indexPred pr) 0).2 rfl
  | reserve | tryReserve | shrinkTo | shrinkToFit =>
    exact .of_eq_rebuilt (hash_resized (step_resized o rfl))
  | cloneProbe base =>
    -- the clone is built (`C20_clone`) and dropped again
    refine .of_eq_rebuilt ⟨?_, Nat.le_refl _⟩
    show hashCount ((clone c base).2.1 ++ dropCache (clone c base).1) = c.entries.length
    rw [hashCount_append, C20_clone, dropCache, hashCount_dropAll]; rfl
  | iterate kind calls forget =>
    exact .of_le_two ((C20_zero p c o kind calls forget).2.2.2.2.2.1 ▸ Nat.zero_le 2) rfl
  | _ => exact hashBounded_simple (step_simple o h.nodup rfl)

/-- The general bound, for every operation in every state: at most two hashes, plus one per entry
that leaves the cache during the step, plus — only when the step rebuilds the table (`rebuilt =
some n`, `n` = entries held at the rebuild) — one per held entry. -/
theorem C20_bound {p : Params} {c : Cache} (op : Op) (o : Oracle) (h : InvA p c) :
    hashCount (step p c op o).evs ≤ 2 + leaves (step p c op o) + rebuiltN (step p c op o) :=
  (C20_step op o h.weak).bound

/-- …and a rebuild only ever re-hashes entries that were held: `n ≤ len`. -/
theorem C20_rebuilt_le {p : Params} {c : Cache} (op : Op) (o : Oracle) (h : InvA p c) :
    rebuiltN (step p c op o) ≤ c.entries.length :=
  (C20_step op o h.weak).rebuilt_le

/-! ### non-vacuity: an insert into a full 3-slot table with two evictions; a growing insert -/
private def p0 : Params := ⟨64, 16, 18446744073709551615⟩
private def c20 : Cache :=
  runOps p0 (Cache.new 200) [(.insert ⟨1, 0, 1⟩ ⟨0, 2⟩, {}), (.insert ⟨2, 0, 3⟩ ⟨0, 4⟩, {}), (.insert ⟨3, 0, 5⟩ ⟨0, 6⟩, {})]
example : hashCount (step p0 c20 (.insert ⟨4, 0, 7⟩ ⟨72, 8⟩) {}).evs = 3 ∧ leaves (step p0 c20 (.insert ⟨4, 0, 7⟩ ⟨72, 8⟩) {}) = 2 := by decide +kernel
example : hashCount (step p0 { c20 with max := 1000 } (.insert ⟨4, 0, 7⟩ ⟨0, 8⟩) {}).evs = 4 ∧
    rebuiltN (step p0 { c20 with max := 1000 } (.insert ⟨4, 0, 7⟩ ⟨0, 8⟩) {}) = 3 := by decide +kernel

end LruMem
