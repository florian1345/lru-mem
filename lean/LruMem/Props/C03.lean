import LruMem.Proofs.Reach
import LruMem.Proofs.Spec
/-!
# C03 — eviction is least-recently-used first, minimal, and spares the new entry

`need l t` is the least `n` such that the entries `l.drop n` fit into `t`
(`need_min`): the shortest run of least-recently-used entries whose removal makes the rest fit.
-/
namespace LruMem

/-- `need` really is the least number of LRU entries to drop. -/
theorem C03_need_minimal (l : List Entry) (t : Nat) :
    sumSizes (l.drop (need l t)) ≤ t ∧ ∀ m, m < need l t → ¬ sumSizes (l.drop m) ≤ t :=
  need_min l t

/-- Insertion of a pair that fits the limit: the replaced entry (if any) is credited first, then
exactly the minimal LRU prefix of the others is evicted, oldest first, and the new entry is the
most-recently-used one — it is never among the evicted. -/
theorem C03_insert {p : Params} {c : Cache} (k : Key) (v : Val) (o : Oracle) (h : InvA p c)
    (hs : entrySize p k v ≤ c.max) :
    (insert p c k v o).cache.entries =
      (removeId c.entries k.id).drop (need (removeId c.entries k.id) (c.max - entrySize p k v))
        ++ [⟨k, v, entrySize p k v⟩] ∧
    (eject (removeId c.entries k.id) (c.cur - oldSize (lookup c.entries k.id)) (c.max - entrySize p k v)).evicted =
      (removeId c.entries k.id).take (need (removeId c.entries k.id) (c.max - entrySize p k v)) :=
  ⟨(insert_spec k v o h.weak hs).1, insert_evicted k v h.weak⟩

/-- The order of the departures is visible in the events: the replaced key first, then the evicted
entries oldest first (hash, drop key, drop value each). -/
theorem C03_insert_events {p : Params} {c : Cache} (k : Key) (v : Val) (o : Oracle) (h : InvA p c)
    (hs : entrySize p k v ≤ c.max) :
    ∃ tail, (insert p c k v o).evs = [Ev.szK k.tok, .szV v.tok, .hash k.id]
      ++ (match lookup c.entries k.id with | some e => [Ev.dropK e.key.tok] | none => [])
      ++ evictAllEvs ((removeId c.entries k.id).take (need (removeId c.entries k.id) (c.max - entrySize p k v)))
      ++ tail := by
  simp only [insert_eq k v o h.weak hs, eject_eq (h.weak.cur_removeId k.id)]
  exact ⟨_, rfl⟩

/-- An entry that fits exactly (or better) evicts nothing. -/
theorem C03_exact_fit {p : Params} {c : Cache} (k : Key) (v : Val) (o : Oracle) (h : InvA p c)
    (hfit : sumSizes (removeId c.entries k.id) + entrySize p k v ≤ c.max) :
    (insert p c k v o).cache.entries = removeId c.entries k.id ++ [⟨k, v, entrySize p k v⟩] := by
  rw [(insert_spec k v o h.weak (Nat.le_trans (Nat.le_add_left _ _) hfit)).1, need_eq_zero (Nat.le_sub_of_add_le hfit)]
  rfl

/-- Replacing a key frees the old entry's size before deciding what else must go: the test is on the
sum *without* the old entry. -/
theorem C03_replace_credit {p : Params} {c : Cache} (k : Key) (v : Val) (o : Oracle) (h : InvA p c)
    (e : Entry) (he : lookup c.entries k.id = some e)
    (hfit : c.cur - e.size + entrySize p k v ≤ c.max) :
    (insert p c k v o).cache.entries = removeId c.entries k.id ++ [⟨k, v, entrySize p k v⟩] :=
  C03_exact_fit k v o h (by rw [← h.weak.cur_removeId k.id, he]; exact hfit)

/-- A growing `mutate` that still fits: the mutated entry is promoted first and survives, even when
it was the least-recently-used one; exactly the minimal LRU prefix of the *others* goes. -/
theorem C03_mutate {p : Params} {c : Cache} (id : Nat) (f : Val → Val × Nat) (o : Oracle) (h : InvA p c)
    (e : Entry) (he : lookup c.entries id = some e)
    (hgrow : valMemSize p (f e.val).1 > valMemSize p e.val)
    (hfit : entrySize p e.key (f e.val).1 ≤ c.max) :
    (mutate p c id f o).cache.entries =
      (removeId c.entries id).drop (need (removeId c.entries id) (c.max - entrySize p e.key (f e.val).1))
        ++ [⟨e.key, (f e.val).1, entrySize p e.key (f e.val).1⟩] :=
  (mutate_fits_spec id f o h e he hfit).1

/-- Lowering the limit evicts exactly the minimal LRU prefix. -/
theorem C03_setmax {p : Params} {c : Cache} (m : Nat) (o : Oracle) (h : InvA p c) :
    (setMaxSize c m o).cache.entries = c.entries.drop (need c.entries m) ∧
    (setMaxSize c m o).evs = evictAllEvs (c.entries.take (need c.entries m)) := by
  obtain ⟨a, b, _⟩ := setMaxSize_spec m o h.weak
  exact ⟨a, by simp only [setMaxSize, b]⟩

/-- A limit that the contents already meet evicts nothing. -/
theorem C03_setmax_noop {p : Params} {c : Cache} (m : Nat) (o : Oracle) (h : InvA p c) (hm : c.cur ≤ m) :
    (setMaxSize c m o).cache.entries = c.entries := by
  rw [(C03_setmax m o h).1, need_eq_zero (by rw [← h.cur]; exact hm)]; rfl

/-- Entries leave unasked only in `insert`, growing `mutate` and `set_max_size`: every other
operation keeps every entry it was not asked to remove. -/
theorem C03_only_when_needed {p : Params} {c : Cache} (id : Nat) (o : Oracle) (h : InvA p c) (x : Entry)
    (hx : x ∈ c.entries) (hne : x.key.id ≠ id) :
    x ∈ (removeEntry c id o).cache.entries ∧ x ∈ (remove c id o).cache.entries ∧
    x ∈ (getEntry c id).cache.entries ∧ x ∈ (peek c id).cache.entries ∧
    x ∈ (tryInsert p c ⟨id, 0, 0⟩ ⟨0, 0⟩ o).cache.entries := by
  have hrm : x ∈ removeId c.entries id := (mem_removeId h.nodup).mpr ⟨hx, hne⟩
  have hins : x ∈ (tryInsert p c ⟨id, 0, 0⟩ ⟨0, 0⟩ o).cache.entries := by
    rcases tryInsert_cases p c ⟨id, 0, 0⟩ ⟨0, 0⟩ o with ⟨out, evs, h, -⟩ | ⟨-, -, h⟩ <;> rw [h]
    · exact hx
    · exact (insertUnchecked_spec _ _ _).1 ▸ List.mem_append_left _ hx
  cases he : lookup c.entries id with
  | none => simp only [removeEntry, remove, getEntry, he]; exact ⟨hx, hx, hx, hx, hins⟩
  | some e =>
    simp only [removeEntry, remove, getEntry, he]
    exact ⟨hrm, hrm, List.mem_append_left _ ((lookup_some_mem he).2 ▸ hrm), hx, hins⟩

private def p0 : Params := ⟨64, 16, 18446744073709551615⟩
private def c3 : Cache :=
  runOps p0 (Cache.new 400) [(.insert ⟨1, 0, 1⟩ ⟨10, 2⟩, {}), (.insert ⟨2, 0, 3⟩ ⟨20, 4⟩, {}),
    (.insert ⟨3, 0, 5⟩ ⟨30, 6⟩, {})]
-- sizes 74, 84, 94 (total 252 of 400, 148 free): 148 fits exactly, 149 evicts one entry, 223 two
example : (step p0 c3 (.insert ⟨4, 0, 7⟩ ⟨84, 8⟩) {}).cache.entries.map (·.key.id) = [1, 2, 3, 4] := by decide +kernel
example : (step p0 c3 (.insert ⟨4, 0, 7⟩ ⟨85, 8⟩) {}).cache.entries.map (·.key.id) = [2, 3, 4] := by decide +kernel
example : (step p0 c3 (.insert ⟨4, 0, 7⟩ ⟨159, 8⟩) {}).cache.entries.map (·.key.id) = [3, 4] := by decide +kernel
-- growing the LRU entry: with 158 it fits exactly, with 159 one other entry must go; the LRU entry itself survives
example : (step p0 c3 (.mutate 1 fun v => ({ v with heap := 158 }, 0)) {}).cache.entries.map (·.key.id) = [2, 3, 1] := by decide +kernel
example : (step p0 c3 (.mutate 1 fun v => ({ v with heap := 159 }, 0)) {}).cache.entries.map (·.key.id) = [3, 1] := by decide +kernel

end LruMem
