import LruMem.Generated.Decls
/-!
# C18 — thread-safety and borrowing contracts are enforced at compile time

The declaration table `LruMem.Generated.table` is regenerated from `/repo/src/*.rs` by the translator
`/verif/tools/decls.py` on every run, so these theorems are re-checked against what the source says
now. The quantifiers are finite (every combination of `Send`/`Sync` for `K`, `V`, `S`; every public
API in the table), and are enumerated completely by `decide` in the kernel.

Partial (DESIGN §6 C18): rustc's trait solver and borrow checker are the implementation here and are
trusted; the tie compiles probe programs against the freshly built crate (positive ones must
compile, negative ones must fail with the expected error code).
-/
namespace LruMem
open LruMem.Decls LruMem.Generated

/-- `LruCache<K, V, S>` is `Send` exactly when `K`, `V` and `S` are all `Send` — whenever all are, and
not if any one of them is not — for all 64 combinations of auto traits of the three parameters. -/
theorem C18_send_iff : ∀ ks ky vs vy ss sy : Bool,
    structAuto table .send lruCacheId (kvs ks ky vs vy ss sy) = (ks && vs && ss) := by decide +kernel

/-- …and `Sync` exactly when all three are `Sync`. -/
theorem C18_sync_iff : ∀ ks ky vs vy ss sy : Bool,
    structAuto table .sync lruCacheId (kvs ks ky vs vy ss sy) = (ky && vy && sy) := by decide +kernel

/-- Every public function that returns a reference or a borrowing iterator takes `&self` or
`&mut self`, and every lifetime in its return type is the receiver's (elided or named after it) —
never `'static`, never a free lifetime parameter. Hence the cache stays borrowed for as long as the
result lives, and no safe program can mutate or drop it meanwhile. -/
theorem C18_borrows : table.apis.all apiBorrowsReceiver = true := by decide +kernel

/-- The four borrowing iterator types (`Iter`, `Keys`, `Values`, `Drain`) have a lifetime parameter that
occurs in one of their fields (a `PhantomData<&'a ()>` marker, the `&'a mut LruCache`, or a nested
iterator instantiated with it): the borrow is part of the type. -/
theorem C18_iter_carries : borrowingIterIds.all (carriesLifetime table) = true := by decide +kernel

/-- The table is not vacuous: it lists the twelve reference-returning functions of the public API
(`hasher`, `iter`, `keys`, `values`, `drain`, `get_lru`, `peek_lru`, `peek_mru`, `get_entry`, `get`,
`peek_entry`, `peek`) — the names are compared by the check, the count here. -/
theorem C18_api_count : 12 ≤ table.apis.length := by decide +kernel

/-- The raw-pointer handle and the iterators built from it are *not* `Send`/`Sync` by themselves — the
cache is only through its two explicit impls, so their bounds are what decides. -/
theorem C18_only_explicit : ∀ ks ky vs vy ss sy : Bool,
    structAuto { table with impls := [] } .send lruCacheId (kvs ks ky vs vy ss sy) = false := by decide +kernel

/-! ### the iterator types are part of the thread-safety contract

A borrowing iterator hands out `&K`/`&V` of a cache that the creating thread can still read, so it may
cross a thread boundary (`Send`) or be shared (`Sync`) at most when `K` and `V` are `Sync` — exactly
like `&LruCache`. `Drain` holds `&mut LruCache` and the owning iterators hold the cache itself, so they
may be `Send`/`Sync` at most when the cache is. (On the current source all seven are neither, because
they hold raw-pointer cursors and have no explicit impl; the statement is the bound any such impl —
or an auto impl acquired through a field type — has to respect.) -/

/-- `Iter`, `Keys`, `Values`: `Send` or `Sync` only if `K: Sync` and `V: Sync`. -/
theorem C18_shared_iters_bounded : ∀ ks ky vs vy ss sy : Bool, sharedIterIds.all (fun n =>
    (!structAuto table .send n (kvs ks ky vs vy ss sy) || (ky && vy)) &&
    (!structAuto table .sync n (kvs ks ky vs vy ss sy) || (ky && vy))) = true := by decide +kernel

/-- `Drain`: `Send` only if `K`, `V`, `S` are all `Send`; `Sync` only if all are `Sync`. -/
theorem C18_drain_bounded : ∀ ks ky vs vy ss sy : Bool, exclIterIds.all (fun n =>
    (!structAuto table .send n (kvs ks ky vs vy ss sy) || (ks && vs && ss)) &&
    (!structAuto table .sync n (kvs ks ky vs vy ss sy) || (ky && vy && sy))) = true := by decide +kernel

/-- `IntoIter`, `IntoKeys`, `IntoValues`: as the cache they own. -/
theorem C18_owning_iters_bounded : ∀ ks ky vs vy ss sy : Bool, owningIterIds.all (fun n =>
    (!structAuto table .send n (kvs ks ky vs vy ss sy) || (ks && vs && ss)) &&
    (!structAuto table .sync n (kvs ks ky vs vy ss sy) || (ky && vy && sy))) = true := by decide +kernel

example : sharedIterIds.length = 3 ∧ exclIterIds.length = 1 ∧ owningIterIds.length = 3 ∧
    (sharedIterIds ++ exclIterIds ++ owningIterIds).all
      (fun n => (table.structs.find? (·.name == n)).isSome) = true := by decide +kernel

/-- The closures passed to `retain` and `mutate` are shown references into the cache that end with the call
of the closure: their reference parameters are higher-ranked (`FnMut(&K, &V)`, elided), never tied to a
lifetime of the function or of the receiver — so a predicate cannot keep a reference to an entry that
`retain` is about to remove and drop, and a `mutate` closure cannot smuggle `&mut V` out. -/
theorem C18_callbacks_higher_ranked :
    callbacks.all (fun c => c.2.all (fun l => l == .elided)) = true := by decide +kernel

example : 2 ≤ callbacks.length := by decide +kernel

/-! ### non-vacuity: the table has the cache -/
example : (table.structs.find? (·.name == lruCacheId)).isSome = true := by decide +kernel

end LruMem
