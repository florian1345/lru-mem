import LruMem.Proofs.MemSize
/-!
# C08 — size estimation is compositional, the bulk helpers agree with it, and it is total

Partial (DESIGN §6 C08): the real stack is *sampled* by the tie (each helper on 5·10⁶ elements in a
debug build on a 256 KiB thread); `size_of` values are parameters of the model.
-/
namespace LruMem
open LruMem.MemSize

/-- `mem_size = value_size + heap_size` for every supported type. -/
theorem C08_mem (t : Ty) (v : TVal) : memSize t v = valueSize t v + heapSize t v := rfl

/-- All four bulk helpers — as specialised per type constructor in the source — return exactly the
element-wise sum for any sequence of items an iterator hands them (any filtered, mapped or chained
iterator yields *some* finite list), for every nesting of the supported constructors, including
arrays of length 0 and tuples of every arity. -/
theorem C08_bulk (t : Ty) (vs : List TVal) :
    hsSumIter t vs = hsDefault t vs ∧ hsSumExact t vs = hsDefault t vs ∧
    vsSumIter t vs = vsDefault t vs ∧ vsSumExact t vs = vsDefault t vs :=
  ⟨(hs_eq t vs).1, (hs_eq t vs).2, (vs_eq t vs).1, (vs_eq t vs).2⟩

/-- …where the element-wise sums are literally `Σ heap_size(item)` and `Σ value_size(item)`. -/
theorem C08_sums (t : Ty) (v : TVal) (vs : List TVal) :
    hsDefault t [] = 0 ∧ hsDefault t (v :: vs) = heapSize t v + hsDefault t vs ∧
    vsDefault t [] = 0 ∧ vsDefault t (v :: vs) = valueSize t v + vsDefault t vs :=
  ⟨hsDefault_nil t, hsDefault_cons t v vs, vsDefault_nil t, vsDefault_cons t v vs⟩

/-- A container's heap size is its own buffer (capacity × element size) plus the heap size of each
element: `Vec`, `BinaryHeap`, `HashSet`, `HashMap`, slices and arrays (no buffer of their own). -/
theorem C08_container (sz esz cap n : Nat) (t k v s : Ty) (vs ks : List TVal) (h : TVal) :
    heapSize (.vec sz t) (.coll cap vs) = hsDefault t vs + cap * t.size ∧
    heapSize (.binaryHeap sz t) (.coll cap vs) = hsDefault t vs + cap * t.size ∧
    heapSize (.hashSet sz t s) (.set cap vs h) = heapSize s h + hsDefault t vs + cap * t.size ∧
    heapSize (.hashMap sz esz k v s) (.map cap ks vs h) = heapSize s h + (hsDefault k ks + hsDefault v vs) + cap * esz ∧
    heapSize (.slice t) (.seq vs) = hsDefault t vs ∧
    heapSize (.array sz n t) (.seq vs) = hsDefault t vs := by
  rw [← (hs_eq t vs).2, ← (hs_eq k ks).2, ← (hs_eq v vs).2]
  and_intros <;> apply heapSize.eq_def

/-- Wrappers add up their parts: `Box` (pointee's value size + heap size), `Option`, `Result`,
`Wrapping`, ranges, `Mutex`/`RwLock`, references (0), tuples (sum of the components). -/
theorem C08_wrappers (sz : Nat) (t e : Ty) (x y : TVal) (ts : List Ty) (cs : List TVal) :
    heapSize (.box sz t) (.box x) = valueSize t x + heapSize t x ∧
    heapSize (.option sz t) .none = 0 ∧ heapSize (.option sz t) (.some x) = heapSize t x ∧
    heapSize (.result sz t e) (.ok x) = heapSize t x ∧ heapSize (.result sz t e) (.err x) = heapSize e x ∧
    heapSize (.wrapping sz t) (.wrap x) = heapSize t x ∧
    heapSize (.range2 sz t) (.two x y) = heapSize t x + heapSize t y ∧
    heapSize (.range1 sz t) (.one x) = heapSize t x ∧
    heapSize (.lock sz t) (.wrap x) = heapSize t x ∧
    heapSize (.ref sz t) x = 0 ∧
    heapSize (.tuple sz ts) (.tup cs) = heapSizeTup ts cs := by
  and_intros <;> apply heapSize.eq_def

/-- Arrays of length 0 contribute nothing, whatever the element type. -/
theorem C08_empty_array (sz : Nat) (t : Ty) : heapSize (.array sz 0 t) (.seq []) = 0 :=
  (heapSize.eq_def ..).trans ((hs_eq t []).2.trans (hsDefault_nil t))

/-- The flat iterator behind `[T; N]::heap_size_sum_exact_size_iter` yields the concatenation of the
sections, and `next` does so in a single stack frame (a loop) however many empty sections it has to
skip. -/
theorem C08_flat_next (f : Flat) :
    (Flat.next f).1 = (f.cur ++ f.rest.flatten).head? ∧
    (Flat.next f).2.1.cur ++ (Flat.next f).2.1.rest.flatten = (f.cur ++ f.rest.flatten).tail ∧
    (Flat.next f).2.2 = 1 := by
  fun_induction Flat.next f with
  | case1 | case2 => exact ⟨rfl, rfl, rfl⟩
  | case3 s rest ih => exact ih

/-- The pre-fix `next` used one stack frame per consecutive empty section (finding F4): its depth is
unbounded in the element count. -/
theorem C08_legacy_depth (n : Nat) : Flat.legacyDepth ⟨[], List.replicate n []⟩ = n + 1 := by
  induction n with
  | zero => simp [Flat.legacyDepth]
  | succ n ih => rw [List.replicate_succ, Flat.legacyDepth, ih]

example : heapSize (.vec 24 (.tuple 32 [.stringLike 24, .prim 8])) (.coll 4 [.tup [.buf 10, .unit], .tup [.buf 3, .unit]]) = 13 + 4 * 32 := by
  simp only [heapSize.eq_def (.vec ..), heapSize.eq_def (.stringLike _), hsSumExact.eq_def (.tuple ..),
    hsSumExact.eq_def (.prim _), hsSumExact.eq_def (.stringLike _), hsSumExactTup.eq_def (_ :: _),
    hsSumExactTup.eq_def [], proj, List.map, List.getD_cons_zero, hsDefault_cons, hsDefault_nil, Ty.size]
example : hsSumExact (.array 48 2 (.stringLike 24)) [.seq [.buf 1, .buf 2], .seq [.buf 3, .buf 4]] = 10 := by
  simp only [hsSumExact.eq_def (.array ..), hsSumExact.eq_def (.stringLike _), heapSize.eq_def (.stringLike _),
    List.flatMap_cons, List.flatMap_nil, elemsOf, List.append_nil, List.cons_append, List.nil_append, hsDefault_cons,
    hsDefault_nil]

end LruMem
