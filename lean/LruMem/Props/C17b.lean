import LruMem.Proofs.Cursor
/-!
# C17 at the pointer level: a leaked iterator

For every well-formed structure, every call sequence and every point at which the iterator is
leaked (`forget = true` after the calls):

* `C17_ptr_drain`: the cache behind a leaked `Drain` is the well-formed empty cache — its seal is
  closed on itself, its table is empty, `current_size = 0` — so every later operation runs on a
  structure satisfying `RefInv` and all of `C07_stepB` applies to it; the nodes that were not
  yielded still hold their entries (leaked) and are unreachable from the cache; the yielded ones
  have been moved out once, and nothing has been moved out twice (`ub = false` is part of `Rep`);
* `C17_ptr_into`: the owning iterators, leaked: exactly the yielded nodes are moved out, once.
-/
namespace LruMem

theorem C17_ptr_drain {p : Params} {c : CacheB} {l : List Nat} (h : RefInv p c l) (calls : List Bool) :
    RefInv p (c.iterScenario .drain calls true).1 [] ∧
    (c.iterScenario .drain calls true).1.abs = { c.abs with entries := [], cur := 0, shape := c.shape.cleared } ∧
    (∀ a ∈ l, (c.iterScenario .drain calls true).1.has a = !decide (some a ∈ (c.iterScenario .drain calls true).2)) := by
  obtain ⟨r, habs, _, hhas⟩ := iter_drain h calls true
  exact ⟨⟨r, habs ▸ cleared_inv c.abs⟩, habs, fun a ha => by rw [hhas a ha]; rfl⟩

theorem C17_ptr_into {p : Params} {c : CacheB} {l : List Nat} (h : RefInv p c l) (kind : IterKind)
    (hk : kind.borrowing = false) (hd : kind ≠ .drain) (calls : List Bool) :
    (c.iterScenario kind calls true).1.ub = false ∧
    (∀ a, (c.iterScenario kind calls true).1.has a =
      if some a ∈ (c.iterScenario kind calls true).2 then false else c.has a) := by
  obtain ⟨hub, _, hf, _⟩ := iter_into h kind hk hd calls true
  exact ⟨hub, hf rfl⟩

end LruMem
