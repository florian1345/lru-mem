import LruMem.Props.C16b
import LruMem.Props.C06b
/-!
# C16 — panics anywhere in programs over several caches

The pool language of `Props/C06b.lean` with a panic that may be injected into every request
(`n = 0`: nowhere): an operation on one cache unwinding out of any of its callbacks, a `clone` or a
`clone_from` unwinding out of a `Clone` / `Hash`. After any such program every cache of the pool
satisfies the weak invariant (one entry per key, `current_size` = Σ recorded sizes, consistent table
accounting) — so each remains usable (`C16_usable_step`) —, and a panic is local: an unwinding
operation touches no other cache, an unwinding `clone` / `clone_from` leaves the whole pool as it was.
-/
namespace LruMem

inductive PPOp
  | new (max n : Nat)
  | op (i : Nat) (op : Op) (o : Oracle) (kind : CbKind) (n : Nat)
  | clone (i : Nat) (base : Nat) (kind : CbKind) (n : Nat)
  | cloneFrom (src dst : Nat) (base : Nat) (kind : CbKind) (n : Nat)
  | drop (i : Nat)

def poolStepP (p : Params) (P : List Cache) : PPOp → List Cache
  | .new max n => P ++ [Cache.withCapacity max n]
  | .op i op o kind n =>
    match P[i]? with
    | some c => P.set i (stepP p c op o kind n).cache
    | none => P
  | .clone i base kind n =>
    match P[i]? with
    | some c => if cloneFires c base kind n then P else P ++ [(clone c base).1]
    | none => P
  | .cloneFrom src dst base kind n =>
    match P[src]?, P[dst]? with
    | some c, some d => if src = dst then P else P.set dst (cloneFromP p d c base kind n).cache
    | _, _ => P
  | .drop i => P.eraseIdx i

/-- The two arithmetic side conditions of §13.6 (`usableOn`), asked of each operation at the moment
it is issued. -/
def UsableRun (p : Params) : List Cache → List PPOp → Prop
  | _, [] => True
  | P, x :: rest =>
    (match x with
     | .op i op _ _ _ => ∀ c, P[i]? = some c → usableOn p c op
     | _ => True) ∧ UsableRun p (poolStepP p P x) rest

def runPoolP (p : Params) : List Cache → List PPOp → List Cache
  | P, [] => P
  | P, x :: rest => runPoolP p (poolStepP p P x) rest

theorem cloneFromP_invW {p : Params} {d c : Cache} (base : Nat) (kind : CbKind) (n : Nat)
    (hd : InvW d) (hc : InvW c) : InvW (cloneFromP p d c base kind n).cache := by
  rw [cloneFromP_cache]; split
  · exact hd
  · exact (clone_invW base hc).1

theorem pool_stepP_invW {p : Params} {P : List Cache} (x : PPOp) (h : ∀ c ∈ P, InvW c)
    (hu : match x with | .op i op _ _ _ => ∀ c, P[i]? = some c → usableOn p c op | _ => True) :
    ∀ c ∈ poolStepP p P x, InvW c := by
  fun_cases poolStepP p P x with
  | case1 max n => exact all_snoc h (new_inv p max n).weak
  | case2 i op o kind n c hc =>
    exact all_set i h (abort_invW (h c (List.mem_of_getElem? hc)) op o kind n (hu c hc).mutateOk)
  | case5 i base kind n c hc => exact all_snoc h (clone_invW base (h c (List.mem_of_getElem? hc))).1
  | case8 src dst base kind n c d hd hc =>
    exact all_set dst h (cloneFromP_invW base kind n (h d (List.mem_of_getElem? hd)) (h c (List.mem_of_getElem? hc)))
  | case10 => exact fun c hc => h c (List.mem_of_mem_eraseIdx hc)
  | case3 | case4 | case6 | case7 | case9 => exact h

/-- **After any program over several caches, with a panic out of any callback of any request
(several panics included), every cache satisfies the weak invariant.** -/
theorem C16_pool_history {p : Params} (prog : List PPOp) :
    ∀ (P : List Cache), (∀ c ∈ P, InvW c) → UsableRun p P prog → ∀ c ∈ runPoolP p P prog, InvW c := by
  induction prog with
  | nil => intro P h _; exact h
  | cons x prog ih =>
    intro P h hu
    exact ih _ (pool_stepP_invW x h hu.1) hu.2

/-- **A panic is local.** An operation that unwinds (or completes) touches no cache but its own. -/
theorem C16_pool_panic_local (p : Params) (P : List Cache) (i j : Nat) (op : Op) (o : Oracle)
    (kind : CbKind) (n : Nat) (hij : i ≠ j) : (poolStepP p P (.op i op o kind n))[j]? = P[j]? := by
  dsimp only [poolStepP]; split
  · exact List.getElem?_set_ne hij
  · rfl

/-- A `clone` that unwinds leaves the whole pool as it was (the partial clone is gone). -/
theorem C16_pool_clone_abort (p : Params) (P : List Cache) (i : Nat) (c : Cache) (base : Nat) (kind : CbKind) (n : Nat)
    (hi : P[i]? = some c) (hf : cloneFires c base kind n = true) : poolStepP p P (.clone i base kind n) = P := by
  simp only [poolStepP, hi, hf, if_true]

/-- A `clone_from` that unwinds leaves the whole pool as it was: the destination included. -/
theorem C16_pool_cloneFrom_abort (p : Params) (P : List Cache) (src dst : Nat) (c d : Cache) (base : Nat)
    (kind : CbKind) (n : Nat) (hs : P[src]? = some c) (hd : P[dst]? = some d)
    (hf : cloneFires c base kind n = true) : poolStepP p P (.cloneFrom src dst base kind n) = P := by
  obtain ⟨hlt, rfl⟩ := List.getElem?_eq_some_iff.mp hd
  simp only [poolStepP, hs, hd, cloneFromP_cache, hf, if_true, List.set_getElem_self, ite_self]

/-! ### non-vacuity: a panic in the second hash of an evicting insert, a panicking clone, then use -/
private def p0 : Params := ⟨64, 16, 18446744073709551615⟩
private def prog : List PPOp :=
  [.new 200 0, .op 0 (.insert ⟨1, 0, 1⟩ ⟨1, 2⟩) {} .hash 0, .op 0 (.insert ⟨2, 0, 3⟩ ⟨2, 4⟩) {} .hash 0,
   .op 0 (.insert ⟨3, 0, 5⟩ ⟨100, 6⟩) {} .hash 2, .clone 0 100 .cloneV 1, .clone 0 100 .cloneV 0,
   .cloneFrom 0 1 200 .cloneK 1, .op 1 (.remove 2) {} .hash 0]
example : ((runPoolP p0 [] prog).map fun c => (ids c.entries, c.cur)) = [([1, 2], 131), ([1], 65)] := by decide +kernel

end LruMem
