import LruMem.Props.C08
import LruMem.Proofs.Hashbrown
/-!
# C09 — `heap_size` matches what the allocator actually holds for owned buffers

`allocBytes` is a model of *external* behaviour (what std requests from the allocator for each
value) and is validated against a counting global allocator on every run; the theorem relates it to
the model of `heap_size` for every nesting. Partial (DESIGN §6 C09): the allocator side is sampled.
-/
namespace LruMem
open LruMem.MemSize

/-- No `HashMap`/`HashSet` anywhere in the type. -/
def noHash : Ty → Bool
  | .hashSet .. | .hashMap .. => false
  -- a user type's report is whatever its author wrote: outside the statement about std's owned buffers
  | .user _ | .userDyn => false
  | .ref _ t | .box _ t | .slice t | .array _ _ t | .option _ t | .wrapping _ t | .range2 _ t
  | .range1 _ t | .lock _ t | .vec _ t | .binaryHeap _ t => noHash t
  | .result _ t e => noHash t && noHash e
  | .tuple _ ts => noHashList ts
  | _ => true
where
  noHashList : List Ty → Bool
    | [] => true
    | t :: ts => noHash t && noHashList ts

theorem hsDefault_allocList (t : Ty) (vs : List TVal) (h : ∀ v, heapSize t v = allocBytes t v) :
    hsDefault t vs = allocList t vs := by
  induction vs with
  | nil => exact hsDefault_nil t
  | cons v vs ih => rw [hsDefault_cons, h, ih]; rfl

/-- Borrowed references contribute 0. -/
theorem C09_ref_zero (sz : Nat) (t : Ty) (v : TVal) : heapSize (.ref sz t) v = 0 ∧ allocBytes (.ref sz t) v = 0 :=
  ⟨heapSize.eq_def .., by cases v <;> apply rfl⟩

mutual
/-- For `String`, `Vec`, `Box` (sized, slice, str-likes), `BinaryHeap`, `CString`, `OsString`,
`PathBuf` and any nesting of them through tuples, arrays, `Option`, `Result`, `Wrapping`, ranges,
`Mutex` and `RwLock`: `heap_size` equals the bytes held from the allocator, including reserved but
unused capacity — for every relation between length and capacity at every nesting level. Borrowed
references contribute 0 on both sides. -/
theorem C09_exact : ∀ (t : Ty), noHash t = true → ∀ v, heapSize t v = allocBytes t v := by
  intro t h v
  -- `heapSize` unfolds by its equation to a `match t, v with`, `allocBytes` recurses on the value and computes once `v`
  -- is a constructor: for a value of the wrong shape the equation says `0`, which is what `allocBytes` computes
  match t, h with
  | .prim _, _ | .strLike, _ | .path, _ | .phantom, _ | .stringLike _, _ | .cString _, _ =>
    cases v <;> apply heapSize.eq_def
  | .ref sz t, _ => exact (C09_ref_zero sz t v).1.trans (C09_ref_zero sz t v).2.symm
  | .box _ t, h =>
    cases v with
    | box x => exact (heapSize.eq_def ..).trans (congrArg _ (C09_exact t h x))
    | _ => apply heapSize.eq_def
  | .slice t, h | .array _ _ t, h =>
    cases v with
    | seq vs => exact (heapSize.eq_def ..).trans ((hs_eq t vs).2.trans (hsDefault_allocList t vs (C09_exact t h)))
    | _ => apply heapSize.eq_def
  | .tuple _ ts, h =>
    cases v with
    | tup vs => exact (heapSize.eq_def ..).trans (C09_tup ts h vs)
    | _ => apply heapSize.eq_def
  | .option _ t, h =>
    cases v with
    | some x => exact (heapSize.eq_def ..).trans (C09_exact t h x)
    | _ => apply heapSize.eq_def
  | .result _ t e, h =>
    have h' : noHash t = true ∧ noHash e = true := (Bool.and_eq_true _ _).mp h
    cases v with
    | ok x => exact (heapSize.eq_def ..).trans (C09_exact t h'.1 x)
    | err x => exact (heapSize.eq_def ..).trans (C09_exact e h'.2 x)
    | _ => apply heapSize.eq_def
  | .wrapping _ t, h | .lock _ t, h =>
    cases v with
    | wrap x => exact (heapSize.eq_def ..).trans (C09_exact t h x)
    | _ => apply heapSize.eq_def
  | .range2 _ t, h =>
    cases v with
    | two a b =>
      exact (heapSize.eq_def ..).trans ((congrArg (· + _) (C09_exact t h a)).trans (congrArg _ (C09_exact t h b)))
    | _ => apply heapSize.eq_def
  | .range1 _ t, h =>
    cases v with
    | one a => exact (heapSize.eq_def ..).trans (C09_exact t h a)
    | _ => apply heapSize.eq_def
  | .vec _ t, h | .binaryHeap _ t, h =>
    cases v with
    | coll cap vs =>
      exact (heapSize.eq_def ..).trans
        (congrArg (· + _) ((hs_eq t vs).2.trans (hsDefault_allocList t vs (C09_exact t h))))
    | _ => apply heapSize.eq_def

theorem C09_tup : ∀ (ts : List Ty), noHash.noHashList ts = true → ∀ vs, heapSizeTup ts vs = allocTup ts vs
  | [], _, [] | [], _, _ :: _ | _ :: _, _, [] => heapSizeTup.eq_def ..
  | t :: ts, h, v :: vs => by
    have h' : noHash t = true ∧ noHash.noHashList ts = true := (Bool.and_eq_true _ _).mp h
    rw [heapSizeTup.eq_def]
    exact (congrArg (· + _) (C09_exact t h'.1 v)).trans (congrArg _ (C09_tup ts h'.2 vs))
end

theorem cap_le_buckets (cap : Nat) : cap ≤ hbBuckets cap :=
  Nat.le_trans (le_freshCap cap) (bucketsToCap_le _)

theorem le_hbBytes (cap e : Nat) : cap * e ≤ hbBytes cap e := by
  unfold hbBytes
  split
  · simp only [*, Nat.zero_mul, Nat.le_refl]
  · have h : cap * e ≤ e * hbBuckets cap := Nat.mul_comm .. ▸ Nat.mul_le_mul_left e (cap_le_buckets cap)
    omega

/-- For `HashMap`/`HashSet` (element types without further hash tables): the estimate never exceeds
what the allocator holds and is at least `capacity × entry size` plus the elements' own heap size. -/
theorem C09_hash_bounds (sz esz cap : Nat) (k v s t : Ty) (ks vs : List TVal) (h : TVal)
    (hk : noHash k = true) (hv : noHash v = true) (hs : noHash s = true) (ht : noHash t = true) :
    cap * esz + (hsDefault k ks + hsDefault v vs) ≤ heapSize (.hashMap sz esz k v s) (.map cap ks vs h) ∧
    heapSize (.hashMap sz esz k v s) (.map cap ks vs h) ≤ allocBytes (.hashMap sz esz k v s) (.map cap ks vs h) ∧
    cap * t.size + hsDefault t vs ≤ heapSize (.hashSet sz t s) (.set cap vs h) ∧
    heapSize (.hashSet sz t s) (.set cap vs h) ≤ allocBytes (.hashSet sz t s) (.set cap vs h) := by
  obtain ⟨-, -, hset, hmap, -⟩ := C08_container sz esz cap 0 t k v s vs ks h
  have hm := le_hbBytes cap esz
  have ht' := le_hbBytes cap t.size
  show _ ∧ _ ≤ allocBytes s h + (allocList k ks + allocList v vs) + hbBytes cap esz ∧
    _ ∧ _ ≤ allocBytes s h + allocList t vs + hbBytes cap t.size
  rw [← C09_exact s hs h, ← hsDefault_allocList k ks (C09_exact k hk), ← hsDefault_allocList v vs (C09_exact v hv),
    ← hsDefault_allocList t vs (C09_exact t ht)]
  omega

/-! ### non-vacuity: spare capacity at two nesting levels; the PathBuf of finding F3 -/
example : heapSize (.vec 24 (.stringLike 24)) (.coll 8 [.buf 100, .buf 0]) = 100 + 8 * 24 :=
  C09_exact _ rfl _
example : heapSize (.stringLike 24) (.buf 100) = 100 ∧ allocBytes (.stringLike 24) (.buf 100) = 100 :=
  ⟨heapSize.eq_def .., rfl⟩

end LruMem
