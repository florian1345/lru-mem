import LruMem.Proofs.Reach
import LruMem.Proofs.Abort
/-!
# C16 — a panic in user code never corrupts the cache

`stepP p c op o kind n` (see `Model/Panic.lean`) is the operation with a panic injected at its
`n`-th callback of kind `kind` (hash — which also stands for a panicking `Eq` inside that lookup —,
key/value size estimate, key/value clone, `retain` predicate, `mutate` closure).

Proved, for every state satisfying the invariant and every callback point:
* for every operation the cache left behind satisfies the *weak invariant* `InvW`: one entry per key,
  `current_size` equals the sum of the sizes recorded for the remaining entries, `len` equals their
  number, the table accounting is consistent — i.e. it is a cache every operation can run on
  (`C16_abort_invW` in `C16b.lean`; here the statements per group of operations);
* for `insert` with a panicking hash nothing is dropped twice and nothing that stays in the cache is
  dropped (`C16_once_insert`; leaks are allowed); for `retain` and `clone_from` (`C14c.lean`) what is
  dropped is stated exactly; for the other operations the drops of an abort are not stated;
* if the panic comes from the `mutate` closure the cache is unchanged; if it comes from the `retain`
  predicate the bound still holds and only entries the predicate already rejected are gone.

Partial (DESIGN §6 C16): panics in `Drop`, in `BuildHasher::clone`, aborts (OOM) and hashbrown's
own unwinding behaviour are not modelled; that the pointer structure is intact after the unwind is
proved of the Level B model in `C16c.lean` / `C16d.lean` and checked on the real heap by the hook
walk after every injected panic; what *later* operations return on a state whose recorded sizes a
panicking size estimate left stale is validated by the tie, not proved.
-/
namespace LruMem

/-- **Usable after the unwind** — lookups, removals and capacity operations: the cache is unchanged
or (a re-hash panicking inside a table rebuild) emptied by the guard. -/
theorem C16_usable_simple {p : Params} {c : Cache} (h : InvA p c) (o : Oracle) (kind : CbKind) (n id a : Nat) :
    InvW (stepP p c (.get id) o kind n).cache ∧ InvW (stepP p c (.peek id) o kind n).cache ∧
    InvW (stepP p c (.remove id) o kind n).cache ∧ InvW (stepP p c .removeLru o kind n).cache ∧
    InvW (stepP p c (.reserve a) o kind n).cache ∧ InvW (stepP p c (.tryReserve a) o kind n).cache ∧
    InvW (stepP p c (.shrinkTo a) o kind n).cache ∧ InvW (stepP p c (.tryInsert ⟨id, 0, 0⟩ ⟨0, 0⟩) o kind n).cache := by
  exact ⟨abort_invW h.weak _ o kind n trivial, abort_invW h.weak _ o kind n trivial, abort_invW h.weak _ o kind n trivial,
    abort_invW h.weak _ o kind n trivial, abort_invW h.weak _ o kind n trivial, abort_invW h.weak _ o kind n trivial,
    abort_invW h.weak _ o kind n trivial, abort_invW h.weak _ o kind n trivial⟩

/-- `mutate`: a panic in the closure itself leaves the cache exactly as it was (so the bound holds
and nothing is lost). -/
theorem C16_closure_mutate {p : Params} {c : Cache} (o : Oracle) (id n : Nat) (f : Val → Val × Nat)
    (hfire : ¬ (n = 0 ∨ cbCount .closure (step p c (.mutate id f) o).evs < n)) :
    (stepP p c (.mutate id f) o .closure n).cache = c := by
  unfold stepP
  rw [if_neg hfire]
  simp only [mutateAbort]
  split <;> rfl

/-- `retain`, panic in the predicate (or in the lookup of a removal): the entries visited before are
processed — the rejected ones removed and dropped —, everything else is still there in order, the
accounting is exact and the bound holds. -/
theorem C16_closure_retain {p : Params} {c : Cache} (h : InvA p c) (o : Oracle) (kind : CbKind) (n : Nat)
    (pr : Nat → Key → Val → Bool) :
    InvW (retainAbort c pr o kind n).cache ∧ (retainAbort c pr o kind n).cache.cur ≤ c.max ∧
    (retainAbort c pr o kind n).cache.max = c.max ∧
    (retainAbort c pr o kind n).cache.entries.Sublist c.entries ∧
    droppedToks (retainAbort c pr o kind n).evs =
      toks (retainAbortGo pr kind n 0 c.entries).2.1 := by
  obtain ⟨a, b, e⟩ := retainAbortGo_spec pr kind n 0 c.entries
  obtain ⟨hw, hc⟩ := h.weak.retained a b o.tombs
  exact ⟨hw, Nat.le_trans (Nat.le.intro hc) h.bound, rfl, a, e⟩

/-- `insert`, wherever the panic strikes (before the table is touched nothing changes; a panic in the
hash of an eviction leaves the completed evictions; a re-hash panicking inside the growth empties the
cache through the guard): the weak invariant holds. The second disjunct is never needed. -/
theorem C16_usable_insert {p : Params} {c : Cache} (h : InvA p c) (k : Key) (v : Val) (o : Oracle) (kind : CbKind) (n : Nat) :
    InvW (insertAbort p c k v o kind n).cache ∨
    (removeId c.entries k.id).length < (n - 1) - 1 :=
  Or.inl (invW_insertAbort h.weak k v o kind n)

/-- No double drop on the way out of `insert`: the dropped objects are the pair itself, the replaced
entry, and evicted entries that are no longer in the cache. -/
theorem C16_once_insert {p : Params} {c : Cache} (_h : InvA p c) (k : Key) (v : Val) (o : Oracle) (n t : Nat) :
    List.count t (droppedToks (insertAbort p c k v o .hash n).evs) +
      List.count t (toks (insertAbort p c k v o .hash n).cache.entries) ≤
    List.count t (toks c.entries) + List.count t [k.tok, v.tok] := by
  -- removing the old entry (`h1`), stopping after some evictions (`h2`) or finishing them (`h3`) loses no
  -- object: the claim is linear in these counts
  have h1 := cnt_removeId t c.entries k.id
  have h2 := congrArg (fun l => List.count t (toks l)) (List.take_append_drop (n - 1 - 1) (removeId c.entries k.id))
  have h3 := cnt_eject t (removeId c.entries k.id) (c.cur - oldSize (lookup c.entries k.id)) (c.max - entrySize p k v)
  simp only [insertAbort]
  by_cases hn : n ≤ 1
  · rw [if_pos hn]; exact Nat.le_of_eq (Nat.add_comm _ _)
  rw [if_neg hn]
  generalize lookup c.entries k.id = old at *
  by_cases hj : n - 1 ≤ (eject (removeId c.entries k.id) (c.cur - oldSize old) (c.max - entrySize p k v)).evicted.length
  · rw [if_pos hj]
    clear hn hj h3  -- `omega` pays for every hypothesis in sight, and splits on the subtractions in `hn`, `hj`
    simp only [abortRes, evictPrefix, dropped_append, dropped_evict, dropped_head_hash, dropKV, toks_append,
      List.count_append] at h2 ⊢
    cases old <;> simp only [optToks, droppedToks, List.count_nil, count_pair] at h1 ⊢ <;> omega
  · rw [if_neg hj]
    clear hn hj h2
    simp only [abortRes, guardEmptied, dropped_append, dropped_evict, dropped_rehash_take, toks_nil, List.count_append]
    cases old <;> simp only [optToks, droppedToks, List.count_nil, count_pair] at h1 ⊢ <;> omega

/-! ### non-vacuity: the F2 scenario — 3 entries at capacity 3, the 4th insert grows, the 2nd re-hash panics -/
private def p0 : Params := ⟨64, 16, 18446744073709551615⟩
private def c3 : Cache :=
  runOps p0 (Cache.new 100000) [(.insert ⟨0, 0, 1⟩ ⟨0, 2⟩, {}), (.insert ⟨1, 0, 3⟩ ⟨0, 4⟩, {}), (.insert ⟨2, 0, 5⟩ ⟨0, 6⟩, {})]
example : c3.shape.capacity = 3 ∧ c3.shape.growthLeft = 0 := by decide +kernel
example : (stepP p0 c3 (.insert ⟨3, 0, 7⟩ ⟨0, 8⟩) {} .hash 3).cache.entries = [] ∧
    (stepP p0 c3 (.insert ⟨3, 0, 7⟩ ⟨0, 8⟩) {} .hash 3).cache.shape = ⟨8, 0, 7⟩ ∧
    (stepP p0 c3 (.insert ⟨3, 0, 7⟩ ⟨0, 8⟩) {} .hash 3).status = .userPanic := by decide +kernel

end LruMem
