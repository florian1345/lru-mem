import LruMem.Proofs.Reach
/-!
# C19 — operations through a shared reference never write to the cache

Level A: every operation available through `&LruCache` returns the cache it was given, as a value —
contents, order, recorded sizes, totals and table shape. In a functional model this is close to
definitional *because the modelled code only reads*; the content of this property is in the tie: the
harness takes a structural fingerprint (node addresses, bucket indices, prev/next links, recorded
sizes, seal links, allocation pointer) through the `verif-hooks` walker before and after every `&self`
call on the real cache and requires equality (DESIGN §6 C19). `Props/C19b.lean` restates it for the
pointer graph of Level B.
-/
namespace LruMem

def Op.sharedRef : Op → Bool
  | .peek _ | .peekEntry _ | .peekLru | .peekMru | .contains _ | .debugFmt | .cloneProbe _ => true
  | .iterate k _ _ => k.borrowing
  | _ => false

theorem sharedRef_step (p : Params) (c : Cache) (op : Op) (o : Oracle) (h : op.sharedRef = true) :
    (step p c op o).cache = c ∧
    ((∀ b, op ≠ .cloneProbe b) → droppedToks (step p c op o).evs = [] ∧ (step p c op o).out.owned = []) := by
  cases op with
  | iterate k calls forget =>
    cases k with
    | iter | keys | values => exact ⟨rfl, fun _ => ⟨rfl, rfl⟩⟩
    | _ => cases h
  | peek | peekEntry | peekLru | peekMru | contains | debugFmt => exact ⟨rfl, fun _ => ⟨rfl, rfl⟩⟩
  | cloneProbe base => exact ⟨rfl, fun hc => absurd rfl (hc base)⟩
  | _ => cases h

/-- Every `&self` operation, for every key argument (present or absent), every call pattern of a
borrowing iterator in both directions, dropped or forgotten: the cache is unchanged. -/
theorem C19_readonly (p : Params) (c : Cache) (op : Op) (o : Oracle) (h : op.sharedRef = true) :
    (step p c op o).cache = c :=
  (sharedRef_step p c op o h).1

/-- They drop nothing and hand out no owned object (a clone's copies belong to the clone). -/
theorem C19_no_effects (p : Params) (c : Cache) (op : Op) (o : Oracle) (h : op.sharedRef = true)
    (hc : ∀ b, op ≠ .cloneProbe b) : droppedToks (step p c op o).evs = [] ∧ (step p c op o).out.owned = [] :=
  (sharedRef_step p c op o h).2 hc

/-- Consequence for sharing `&LruCache` between threads: in any interleaving of shared-reference
operations each one sees the same cache and returns what it returns when run alone. -/
theorem C19_interleave (p : Params) (c : Cache) (ops : List (Op × Oracle)) (h : ∀ x ∈ ops, x.1.sharedRef = true) :
    runOps p c ops = c ∧ ∀ x ∈ ops, ∀ (pre : List (Op × Oracle)), (∀ y ∈ pre, y.1.sharedRef = true) →
      step p (runOps p c pre) x.1 x.2 = step p c x.1 x.2 := by
  have key : ∀ (l : List (Op × Oracle)), (∀ x ∈ l, x.1.sharedRef = true) → runOps p c l = c := by
    intro l
    induction l with
    | nil => intro _; rfl
    | cons a l ih =>
      intro hl
      show runOps p (step p c a.1 a.2).cache l = c
      rw [C19_readonly p c a.1 a.2 (hl a (List.mem_cons_self ..))]
      exact ih fun x hx => hl x (List.mem_cons_of_mem _ hx)
  exact ⟨key ops h, fun x _ pre hpre => by rw [key pre hpre]⟩

end LruMem
