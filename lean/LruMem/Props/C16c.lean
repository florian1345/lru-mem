import LruMem.Proofs.Abort
import LruMem.Props.C07b
import LruMem.Proofs.PanicB
/-!
# C16 at the pointer level

`Props/C16.lean`, `C16b.lean` state the property for the functional model (Level A): the cache value
left behind by an unwind satisfies the weak invariant. That level cannot express the failure the
property is about — a link into freed memory — because it has no links. This file lifts the statement
to the pointer model (Level B, `Model/Ptr.lean`, `Model/PanicB.lean`): the abstraction of the pointer
structure at the abort point is Level A's abort state, so `C16_abort_invW` and everything proved from it
hold of the real structure.
-/
namespace LruMem

/-- **The reallocation guard, pointer level** (restated from `Proofs/PanicB.lean`): when a re-hash panics
inside `move_to_table`, for *any* table order and *any* number of entries already moved, the
`ReallocationGuard` leaves the well-formed empty structure: the seal closed on itself, no full bucket,
nothing pointing into the freed allocation, `ub = false`. -/
theorem C16_ptr_guard {c : CacheB} {l : List Nat} (n k : Nat) (r : Rep c l) :
    Rep (c.reallocateAbort n k) [] ∧ (c.reallocateAbort n k).ub = false ∧
    (c.reallocateAbort n k).abs = guardEmptied c.abs n :=
  ⟨(reallocateAbort_refines n k r).1, (reallocateAbort_refines n k r).1.noUb, (reallocateAbort_refines n k r).2⟩

/-- **C16, pointer level** (from any structure whose abstraction satisfies the *weak* invariant — in
particular one left behind by an earlier panic). Whatever operation is running on the cache, whichever callback panics
(`kind`, `n`): the structure left behind by the unwind is a closed, mirrored doubly linked cycle
through exactly the live buckets of the *current* table, no step so far has touched freed, vacated or
null memory, and its abstraction is the Level A abort state. -/
theorem C16_ptr_abortW {p : Params} {c : CacheB} {l : List Nat} (op : Op) (o : Oracle) (kind : CbKind) (n : Nat)
    (h : RefW c l) (hd : op.direct = true) :
    ∃ l', Rep (stepPB p c op o kind n) l' ∧ (stepPB p c op o kind n).ub = false ∧
      (stepPB p c op o kind n).abs = (stepP p c.abs op o kind n).cache := by
  suffices hs : ∃ l', Rep (stepPB p c op o kind n) l' ∧
      (stepPB p c op o kind n).abs = (stepP p c.abs op o kind n).cache from
    let ⟨l', r, e⟩ := hs; ⟨l', r, r.noUb, e⟩
  unfold stepPB stepP
  refine refines_ite Res.cache (fun _ => stepB_refinesW op o h hd) fun hfire => ?_
  have hn : n ≤ cbCount kind (step p c.abs op o).evs := Nat.not_lt.mp (not_or.mp hfire).2
  cases op with
  | insert k v => exact insertAbort_refines k v o kind n h
  | tryInsert k v => exact tryInsertAbort_refines k v o kind n h
  | get | getEntry | touch | peek | peekEntry | contains | remove | removeEntry | removeLru | removeMru =>
    exact ⟨l, h.rep, rfl⟩
  | setMaxSize m =>
    have hlen := cbCount_eject_le kind c.abs.entries c.abs.cur m
    rw [h.rep.length_abs, h.rep.length] at hlen
    exact ⟨_, evictN_abs (n - 1) o.tombs h (Nat.le_trans (Nat.sub_le _ _) (Nat.le_trans hn hlen))⟩
  | reserve | tryReserve | shrinkTo | shrinkToFit => exact ⟨[], reallocateAbort_refines _ _ h.rep⟩
  | mutate id f =>
    have hlen := Nat.le_trans hn (mutate_cb_le p c.abs id f o kind)
    rw [h.rep.length_abs, h.rep.length] at hlen
    exact mutateAbort_refines id f o kind n h (Nat.sub_le_of_le_add (Nat.add_comm .. ▸ hlen))
  | retain pr => exact retainAbort_refines pr o kind n h
  | getLru | peekLru | peekMru | clear | debugFmt => exact stepB_refinesW _ o h rfl
  | iterate | cloneProbe => cases hd

/-- the same from a structure whose abstraction satisfies the full invariant (every state reached
without a panic, `C07_history`) -/
theorem C16_ptr_abort {p : Params} {c : CacheB} {l : List Nat} (op : Op) (o : Oracle) (kind : CbKind) (n : Nat)
    (h : RefInv p c l) (hd : op.direct = true) :
    ∃ l', Rep (stepPB p c op o kind n) l' ∧ (stepPB p c op o kind n).ub = false ∧
      (stepPB p c op o kind n).abs = (stepP p c.abs op o kind n).cache :=
  C16_ptr_abortW op o kind n h.toW hd

private def q1 : Params := ⟨64, 16, 18446744073709551615⟩
/-- three entries in a table of capacity 3: the next insertion grows the table -/
private def b3 : CacheB :=
  runOpsB q1 (CacheB.new 1000 0) [(.insert ⟨1, 0, 1⟩ ⟨0, 2⟩, {}), (.insert ⟨2, 0, 3⟩ ⟨0, 4⟩, {}), (.insert ⟨3, 0, 5⟩ ⟨0, 6⟩, {})]

example : b3.shape.capacity = 3 ∧ b3.order.length = 3 ∧ b3.ub = false := by decide +kernel

/-- the fourth insert grows; its 3rd hash (the 2nd re-hash) panics: with the guard the structure is
the empty cache and a later `iter()` walk is clean -/
example : (stepPB q1 b3 (.insert ⟨4, 0, 7⟩ ⟨0, 8⟩) {} .hash 3).order = [] ∧
    (stepPB q1 b3 (.insert ⟨4, 0, 7⟩ ⟨0, 8⟩) {} .hash 3).ub = false ∧
    (((stepPB q1 b3 (.insert ⟨4, 0, 7⟩ ⟨0, 8⟩) {} .hash 3).iterScenario .iter [true, true, true] false).1).ub = false := by
  decide +kernel

/-- **Finding F2, as a theorem about the pre-fix code.** Without the guard the same abort leaves the
list running through the freed table: the walk of a plain `iter()` dereferences dead memory. -/
theorem C16_ptr_legacy_dangles :
    (((b3.reallocateAbortLegacy 7 1).iterScenario .iter [true, true, true] false).1).ub = true := by
  decide +kernel

end LruMem
