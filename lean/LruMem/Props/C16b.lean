import LruMem.Proofs.Reach
import LruMem.Proofs.Abort
/-!
# C16, continued: the cache left behind by an unwind can be *used*

`abort_invW` (Proofs/Abort) shows that every abort state satisfies the weak invariant `InvW` (one entry per key,
`current_size` = sum of the *recorded* sizes, `len` = number of entries, consistent table
accounting). Here: `InvW` is all that the operations need. Every operation maps a cache satisfying
`InvW` to one satisfying `InvW`, its eviction loops terminate and `insert_untracked`'s unchecked
unwrap is never reached (`status` is `ok`, or `implPanic` for the documented `unwrap`s of
`reserve`/`shrink_to`) — with two exceptions stated as hypotheses, both arithmetic on sizes that a
panicking size estimate can leave stale (DESIGN §13.6):

* `try_insert` computes `max_size - current_size`, so it needs `current_size ≤ max_size`
  (which a panic inside the eviction loop of a growing `mutate` can leave violated);
* a non-expanding `mutate` subtracts the shrinkage from the entry's recorded size, so it needs the
  recorded size to be at least the value's current estimate.
-/
namespace LruMem

/-- the two size-arithmetic side conditions, per operation -/
def usableOn (p : Params) (c : Cache) : Op → Prop
  | .tryInsert _ _ => c.cur ≤ c.max
  | .mutate id _ => ∀ e, lookup c.entries id = some e → valMemSize p e.val ≤ e.size
  | _ => True

theorem usableOn.mutateOk {p : Params} {c : Cache} {op : Op} (hu : usableOn p c op) : mutateOk p c op := by
  cases op with
  | mutate => exact fun e he => Nat.le_trans (Nat.sub_le _ _) (hu e he)
  | _ => exact True.intro

/-- **Usable after the unwind**: every operation runs on a cache that only satisfies the weak
invariant, keeps the weak invariant, terminates and never reaches undefined behaviour. -/
theorem C16_usable_step {p : Params} {c : Cache} (op : Op) (o : Oracle) (h : InvW c) (hu : usableOn p c op) :
    InvW (step p c op o).cache ∧
    ((step p c op o).status = .ok ∨ (step p c op o).status = .implPanic) :=
  (step_weak op o h hu.mutateOk).imp_right (·.imp_right And.left)

/-- Every history of operations from a weak state stays weak (the side conditions are asked of the
state each operation starts from). -/
theorem C16_usable_history {p : Params} : ∀ (ops : List (Op × Oracle)) {c : Cache}, InvW c →
    (∀ (pre : List (Op × Oracle)) (x : Op × Oracle) (post : List (Op × Oracle)), ops = pre ++ x :: post →
      usableOn p (runOps p c pre) x.1) →
    InvW (runOps p c ops) := by
  intro ops
  induction ops with
  | nil => exact fun h _ => h
  | cons x rest ih =>
    intro c h hu
    exact ih (C16_usable_step x.1 x.2 h (hu [] x rest rfl)).1 fun pre y post he => hu (x :: pre) y post (he ▸ rfl)

/-- **C16, all in one**: for every cache satisfying the invariant, every operation, every kind of
callback and every index `n`, the cache left behind by the unwind satisfies the weak invariant. -/
theorem C16_abort_invW {p : Params} {c : Cache} (h : InvA p c) (op : Op) (o : Oracle) (kind : CbKind) (n : Nat) :
    InvW (stepP p c op o kind n).cache :=
  abort_invW h.weak op o kind n (h.mutateOk op)

/-! non-vacuity: a growing `mutate` of the LRU entry whose second eviction's hash panics — one
eviction is complete, `current_size` is above the limit (the bound is *not* promised here), the
weak invariant holds and a following `insert` brings the cache back under its limit -/
private def q0 : Params := ⟨64, 16, 18446744073709551615⟩
private def c4 : Cache :=
  runOps q0 (Cache.new 300) [(.insert ⟨0, 0, 1⟩ ⟨0, 2⟩, {}), (.insert ⟨1, 0, 3⟩ ⟨0, 4⟩, {}), (.insert ⟨2, 0, 5⟩ ⟨0, 6⟩, {}),
    (.insert ⟨3, 0, 7⟩ ⟨0, 8⟩, {})]
private def grow : Val → Val × Nat := fun v => ({ v with heap := 150 }, 0)
example : c4.cur = 256 ∧ ids c4.entries = [0, 1, 2, 3] := by decide +kernel
example : ids (stepP q0 c4 (.mutate 0 grow) {} .hash 3).cache.entries = [2, 3, 0] ∧
    (stepP q0 c4 (.mutate 0 grow) {} .hash 3).cache.cur = 342 ∧
    (stepP q0 c4 (.mutate 0 grow) {} .hash 3).status = .userPanic := by decide +kernel
example : (step q0 (stepP q0 c4 (.mutate 0 grow) {} .hash 3).cache (.insert ⟨9, 0, 11⟩ ⟨0, 12⟩) {}).cache.cur ≤ 300 := by decide +kernel

end LruMem
