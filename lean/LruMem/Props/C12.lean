import LruMem.Props.C06
/-!
# C12 — iterators yield every entry exactly once, in order, from both ends

Level A: the two-cursor iterators of `iter.rs` seen as "what is left": `next` takes the head,
`next_back` the last element. The pointer-level cursors (null = exhausted, meeting test
`next == next_back`) are the subject of `LruMem/Model/Ptr.lean` (Level B).
-/
namespace LruMem

/-- Items yielded by front calls and by back calls, each in call order. -/
def splitYields : List Bool → List (Option Entry) → List Entry × List Entry
  | f :: fs, y :: ys =>
    let r := splitYields fs ys
    match y with
    | some e => if f then (e :: r.1, r.2) else (r.1, e :: r.2)
    | none => r
  | _, _ => ([], [])

theorem splitYields_none (calls : List Bool) : splitYields calls (List.replicate calls.length none) = ([], []) := by
  induction calls with
  | nil => rfl
  | cons f fs ih => simp [splitYields, List.replicate_succ, ih]

theorem iterCalls_length (l : List Entry) (calls : List Bool) : (iterCalls l calls).1.length = calls.length := by
  induction calls generalizing l with
  | nil => rfl
  | cons f fs ih => simp [iterCalls, ih]

theorem iterCalls_rest_length (l : List Entry) (calls : List Bool) :
    (iterCalls l calls).2.length = l.length - calls.length := by
  induction calls generalizing l with
  | nil => rfl
  | cons f fs ih =>
    show (iterCalls (iterStep l f).2 fs).2.length = _
    rw [ih, List.length_cons, Nat.add_comm, Nat.sub_add_eq]
    cases f
    · exact congrArg (· - _) List.length_dropLast
    · exact congrArg (· - _) List.length_tail

/-- Every entry exactly once in total: any interleaving of `next` and `next_back`, of any length, cuts the
LRU→MRU sequence into what the front calls yielded, what is left, and the reverse of what the back calls
yielded. -/
theorem C12_exactly_once (l : List Entry) (calls : List Bool) :
    (splitYields calls (iterCalls l calls).1).1 ++ (iterCalls l calls).2 ++
      (splitYields calls (iterCalls l calls).1).2.reverse = l := by
  induction l, calls using iterCalls_ind with
  | nil l => exact List.append_nil _
  | empty calls => rw [(iterCalls_nil calls).1, (iterCalls_nil calls).2, splitYields_none]; rfl
  | front a l fs ih => rw [iterCalls_front_cons]; exact congrArg (a :: ·) ih
  | back l z fs ih =>
    rw [iterCalls_back_snoc]
    show (splitYields fs (iterCalls l fs).1).1 ++ (iterCalls l fs).2 ++ (z :: (splitYields fs (iterCalls l fs).1).2).reverse = _
    rw [List.reverse_cons, ← List.append_assoc, ih]

/-- Once everything has been yielded every further call returns `None` (all seven iterators behave
fused), and with at least `len` calls everything has been yielded. -/
theorem C12_fused (l : List Entry) (calls more : List Bool) (h : l.length ≤ calls.length) :
    (iterCalls l calls).2 = [] ∧ (iterCalls (iterCalls l calls).2 more).1 = List.replicate more.length none := by
  have : (iterCalls l calls).2 = [] :=
    List.eq_nil_of_length_eq_zero ((iterCalls_rest_length l calls).trans (Nat.sub_eq_zero_of_le h))
  exact ⟨this, by rw [this]; exact (iterCalls_nil more).1⟩

/-- Borrowing iterators (`iter`, `keys`, `values`) change nothing, whatever is called and whether
the iterator is dropped or forgotten. -/
theorem C12_borrowing (c : Cache) (kind : IterKind) (calls : List Bool) (forget : Bool) (h : kind.borrowing = true) :
    (iterScenario c kind calls forget).cache = some c ∧ (iterScenario c kind calls forget).evs = [] := by
  simp [iterScenario, h]

/-- Once a drain is over the cache is empty with size 0 and satisfies the invariant — so it is fully
usable: every other theorem applies to it — however much was consumed. -/
theorem C12_drain_drop {p : Params} {c : Cache} (calls : List Bool) (forget : Bool) (h : InvA p c) :
    ∃ c', (iterScenario c .drain calls forget).cache = some c' ∧ c'.entries = [] ∧ c'.cur = 0 ∧
      c'.max = c.max ∧ c'.shape.buckets = c.shape.buckets ∧ InvA p c' :=
  ⟨_, rfl, rfl, rfl, rfl, rfl, cleared_inv c⟩

/-- Owning iterators drop whatever was not consumed (and nothing else, and nothing twice): see
`C06_owning_iter` with `forget = false`. -/
theorem C12_into_drop (c : Cache) (kind : IterKind) (calls : List Bool) (hk : kind.borrowing = false) (t : Nat) :
    List.count t (toks c.entries) =
      List.count t (droppedToks (iterScenario c kind calls false).evs) +
      List.count t (iterScenario c kind calls false).out.owned := by
  have := (C06_owning_iter c kind calls false hk t).1
  simpa using this

private def e (i : Nat) : Entry := ⟨⟨i, 0, 2 * i⟩, ⟨0, 2 * i + 1⟩, 64⟩
example : ((iterCalls [e 1, e 2, e 3] [true, false, false, true, true]).1.map (·.map (·.key.id))) =
    [some 1, some 3, some 2, none, none] := by decide +kernel
example : ((iterCalls [e 1] [false, true]).1.map (·.map (·.key.id))) = [some 1, none] := by decide +kernel

end LruMem
