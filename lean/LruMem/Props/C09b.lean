import LruMem.Generated.MemDecls
/-!
# C09 (continued) — the owned-buffer impls of the regenerated source table

`C09_exact` is a theorem about the model's `heapSize`; `Props/C08b.lean` shows that `heapSize` is the source's
`heap_size`, impl by impl, for the table regenerated from `/repo/src/mem_size.rs` on every run. Restated here for
the types C09 names: the buffer-owning impls report `capacity()` (`String`, `OsString`, `PathBuf`), the length
with the terminator (`CString`), `capacity() * size_of::<T>()` plus the elements through the exact-size helper
(`Vec`, `BinaryHeap`; `HashSet`/`HashMap` with the hasher), the pointee's `mem_size` (`Box`), and references 0.
-/
namespace LruMem
open LruMem.MemDecl

theorem C09_source_owned :
    (GeneratedMem.impls.filter fun r => r.target ∈ [Target.string, .osString, .pathBuf, .cString, .vec, .binaryHeap, .box, .ref, .refMut]).map
      (fun r => (r.target, r.heap)) =
    [(.binaryHeap, [[.exactOver 0], [.cap, .sizeOfElem]]), (.box, [[.derefMem]]), (.cString, [[.lenNul]]),
     (.osString, [[.cap]]), (.pathBuf, [[.cap]]), (.ref, [[.zero]]), (.refMut, [[.zero]]), (.string, [[.cap]]),
     (.vec, [[.asSlice], [.cap, .sizeOfElem]])] := by decide +kernel

theorem C09_source_hash :
    (GeneratedMem.impls.filter fun r => r.target ∈ [Target.hashMap, .hashSet]).map (fun r => (r.target, r.heap)) =
    [(.hashMap, [[.exactOver 1], [.exactOver 2], [.cap, .sizeOfPair], [.hasher]]),
     (.hashSet, [[.exactOver 0], [.cap, .sizeOfElem], [.hasher]])] := by decide +kernel

end LruMem
