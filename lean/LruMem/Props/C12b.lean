import LruMem.Proofs.Cursor
/-!
# C12 at the pointer level: the two-cursor iterators walk the real chain

The Level A theorems of `C12.lean` are about `iterCalls` on the list of entries. These theorems say
that the Level B iterators — two raw cursors following `prev`/`next` links, a null test, an equality
test between the cursors — yield exactly that sequence for *any* interleaving of `next` and
`next_back`, on any well-formed structure, without ever dereferencing a node that is dead or was
already moved out (`ub = false`), so "each entry exactly once, in order, then `None` forever"
(`C12_exactly_once`, `C12_fused`) holds of what the pointer code yields.
-/
namespace LruMem

/-- `iter` / `keys` / `values`: the cache (every field, including every link) is unchanged and the
yielded nodes carry the Level A sequence. -/
theorem C12_ptr_borrowing {p : Params} {c : CacheB} {l : List Nat} (h : RefInv p c l) (kind : IterKind)
    (hk : kind.borrowing = true) (calls : List Bool) (forget : Bool) :
    (c.iterScenario kind calls forget).1 = c ∧
    (c.iterScenario kind calls forget).2.map (Option.map c.ent) = (iterCalls c.abs.entries calls).1 :=
  iter_borrowing h kind hk calls forget

/-- `drain`: yields the Level A sequence; afterwards — dropped *or leaked* — the cache is the
well-formed empty cache with `current_size = 0`. -/
theorem C12_ptr_drain {p : Params} {c : CacheB} {l : List Nat} (h : RefInv p c l) (calls : List Bool) (forget : Bool) :
    (c.iterScenario .drain calls forget).2.map (Option.map c.ent) = (iterCalls c.abs.entries calls).1 ∧
    Rep (c.iterScenario .drain calls forget).1 [] ∧
    (c.iterScenario .drain calls forget).1.abs.entries = [] ∧ (c.iterScenario .drain calls forget).1.abs.cur = 0 := by
  obtain ⟨r, habs, hy, _⟩ := iter_drain h calls forget
  exact ⟨hy, r, by rw [habs], by rw [habs]⟩

/-- `into_iter` / `into_keys` / `into_values`: yields the Level A sequence, and with the iterator
dropped every node has been moved out exactly once (none is left holding its entry, and the
`ub` flag that a second move-out would set is clear). -/
theorem C12_ptr_into {p : Params} {c : CacheB} {l : List Nat} (h : RefInv p c l) (kind : IterKind)
    (hk : kind.borrowing = false) (hd : kind ≠ .drain) (calls : List Bool) :
    (c.iterScenario kind calls false).2.map (Option.map c.ent) = (iterCalls c.abs.entries calls).1 ∧
    (c.iterScenario kind calls false).1.ub = false ∧
    (∀ a, (c.iterScenario kind calls false).1.has a = false) := by
  obtain ⟨hub, hy, _, hall⟩ := iter_into h kind hk hd calls false
  exact ⟨hy, hub, hall rfl⟩

/-! non-vacuity: a concrete structure, `next, next_back, next_back, next` on three entries -/
private def p0 : Params := ⟨64, 16, 18446744073709551615⟩
private def cb : CacheB :=
  (((CacheB.new 1000 0).insert p0 ⟨1, 0, 1⟩ ⟨0, 2⟩ {}).insert p0 ⟨2, 0, 3⟩ ⟨0, 4⟩ {}).insert p0 ⟨3, 0, 5⟩ ⟨0, 6⟩ {}
example : (cb.iterScenario .iter [true, false, false, true] false).2.map (Option.map fun a => (cb.ent a).key.id) =
    [some 1, some 3, some 2, none] := by decide +kernel
example : (cb.iterScenario .intoIter [true, false] false).1.ub = false := by decide +kernel

end LruMem
