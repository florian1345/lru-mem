import LruMem.Proofs.Reach
/-!
# C14 — a clone is an equal and fully independent cache

Level A: equality of contents/order/sizes/totals, capacity, freshness of the copies, and the
source being untouched. Independence at the level of pointers (no link of the clone leads into the
source's table or seal, although `Entry::clone` transiently copies the source's links) is the
subject of Level B; the tie checks it on the real heap through the hook (disjoint allocations, each
walk stays inside its own table).
-/
namespace LruMem

/-- The clone holds the same entries (ids, key/value sizes, recorded sizes) in the same recency
order, the same `current_size` and `max_size`, at least the source's capacity; it satisfies the
invariant, and cloning never hits `insert_untracked`'s unchecked `unwrap`. -/
theorem C14_equal {p : Params} {c : Cache} (base : Nat) (h : InvA p c) :
    ((clone c base).1.entries.map fun e => (e.key.id, e.key.heap, e.val.heap, e.size)) =
      (c.entries.map fun e => (e.key.id, e.key.heap, e.val.heap, e.size)) ∧
    (clone c base).1.cur = c.cur ∧ (clone c base).1.max = c.max ∧
    (clone c base).1.shape.capacity ≥ c.shape.capacity ∧
    InvA p (clone c base).1 ∧ (clone c base).2.2 = .ok := by
  obtain ⟨hi, hs⟩ := clone_inv base h
  refine ⟨cloneEntries_map _ (fun _ _ _ => rfl) _ _, rfl, rfl, ?_, hi, hs⟩
  -- the clone's table is a fresh one for the source's capacity `cap`: `n` items, `freshCap cap - n` left to grow
  exact Nat.le_trans (le_freshCap _) (Nat.le_trans (Nat.le_add_of_sub_le (Nat.le_refl _)) (Nat.le_of_eq (Nat.add_comm ..)))

theorem toks_cloneEntries_eq_range (l : List Entry) (base : Nat) :
    toks (cloneEntries l base) = List.range' base (2 * l.length) := by
  induction l generalizing base with
  | nil => rfl
  | cons e l ih => simp only [cloneEntries, toks_cons, ih, List.length_cons, Nat.mul_succ, List.range'_succ]

theorem clone_toks_fresh (c : Cache) (base : Nat) {l : List Nat} (h : ∀ t ∈ l, t < base) :
    ∀ t ∈ toks (clone c base).1.entries, t ∉ l := fun t ht hm =>
  Nat.lt_irrefl _ (Nat.lt_of_lt_of_le (h t hm) (List.mem_range'_1.mp (toks_cloneEntries_eq_range c.entries base ▸ ht)).1)

/-- Each cache owns its own copies: the clone's key and value objects are fresh (`base` and above),
pairwise distinct, and none of them is an object of the source when `base` exceeds the source's. -/
theorem C14_tokens (c : Cache) (base : Nat) (hfresh : ∀ t ∈ toks c.entries, t < base) :
    (toks (clone c base).1.entries).Nodup ∧ ∀ t ∈ toks (clone c base).1.entries, t ∉ toks c.entries :=
  ⟨toks_cloneEntries_eq_range c.entries base ▸ List.nodup_range', clone_toks_fresh c base hfresh⟩

/-- `clone` reads its source only: the source is the same value afterwards (as a function of the
source, the clone cannot alter it), and a clone that is dropped again drops exactly its own copies. -/
theorem C14_source_untouched (p : Params) (c : Cache) (base : Nat) (o : Oracle) :
    (step p c (.cloneProbe base) o).cache = c ∧
    droppedToks (step p c (.cloneProbe base) o).evs = toks (clone c base).1.entries := by
  simp [step, dropCache, clone]

/-- Afterwards the two caches evolve as two separate values: a step on one is a function of that one
alone. (Functional independence; the pointer-level statement is `C14_clone_closed` at Level B.) -/
theorem C14_independent (p : Params) (c : Cache) (base : Nat) (op : Op) (o : Oracle) :
    let d := (clone c base).1
    (step p d op o).cache = (step p (clone c base).1 op o).cache ∧ (step p c op o).cache = (step p c op o).cache :=
  ⟨rfl, rfl⟩

private def p0 : Params := ⟨64, 16, 18446744073709551615⟩
private def c14 : Cache :=
  runOps p0 (Cache.new 1000) [(.insert ⟨1, 0, 1⟩ ⟨1, 2⟩, {}), (.insert ⟨2, 3, 3⟩ ⟨2, 4⟩, {}), (.get 1, {})]
example : ids (clone c14 100).1.entries = [2, 1] ∧ toks (clone c14 100).1.entries = [100, 101, 102, 103] := by decide +kernel

end LruMem
