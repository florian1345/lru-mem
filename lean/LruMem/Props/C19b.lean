import LruMem.Props.C07c
/-!
# C19 at the pointer level

`C19_readonly` (Level A) says a `&self` operation returns the same *cache value*. Here the same is
proved of the pointer structure: after any shared-reference operation the Level B state is **equal** to
the one before — every `prev`/`next` link of every node and of the seal, every bucket state, every
recorded entry size, every stored key and value, the table listing, totals, shape, the allocation
counter, and the `ub` flag (so the operation also performed no invalid read). For the borrowing
iterators this is a theorem about the two-cursor walk (`iter_borrowing`), for `clone` about the copy
loop reading the source only (`C14_clone_closed`).
-/
namespace LruMem

theorem C19_ptr_readonly {p : Params} {c : CacheB} {l : List Nat} (h : RefInv p c l) (op : Op) (o : Oracle)
    (hs : op.sharedRef = true) : stepB p c op o = c := by
  cases op with
  | iterate k calls forget => exact (iter_borrowing h k hs calls forget).1
  | peek | peekEntry | peekLru | peekMru | contains | debugFmt => rfl
  | cloneProbe base => exact stepB_cloneProbe h base o
  | _ => cases hs

/-- Any sequence (hence any interleaving issued by several readers) of shared-reference operations
leaves the pointer structure equal to the initial one. -/
theorem C19_ptr_interleave {p : Params} {c : CacheB} {l : List Nat} (h : RefInv p c l)
    (ops : List (Op × Oracle)) (hs : ∀ x ∈ ops, x.1.sharedRef = true) : runOpsB p c ops = c := by
  induction ops with
  | nil => rfl
  | cons a ops ih =>
    show runOpsB p (stepB p c a.1 a.2) ops = c
    rw [C19_ptr_readonly h a.1 a.2 (hs a (List.mem_cons_self ..))]
    exact ih fun x hx => hs x (List.mem_cons_of_mem _ hx)

/-! non-vacuity: a three-entry structure, a mixed sequence of readers -/
private def p0 : Params := ⟨64, 16, 18446744073709551615⟩
private def cb : CacheB :=
  (((CacheB.new 1000 0).insert p0 ⟨1, 0, 1⟩ ⟨0, 2⟩ {}).insert p0 ⟨2, 0, 3⟩ ⟨0, 4⟩ {}).insert p0 ⟨3, 0, 5⟩ ⟨0, 6⟩ {}
example : ∀ x ∈ ([(.peek 2, {}), (.iterate .iter [true, false, true, true] false, {}), (.cloneProbe 100, {}),
    (.contains 9, {}), (.iterate .values [false] true, {})] : List (Op × Oracle)), x.1.sharedRef = true := by decide +kernel
example : cb.order.length = 3 ∧ cb.ub = false := by decide +kernel

end LruMem
