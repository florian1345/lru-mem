import LruMem.Proofs.Reach
import LruMem.Proofs.Refine2
/-!
# C07, continued: every non-iterator operation, and whole histories

`C07_stepB`: for every operation of the public API that does not hand out a cursor (everything in
`Op` except `iterate` and the clone probe), one Level B step from a well-formed structure gives a
well-formed structure whose abstraction is the Level A result — so in particular it never touches a
dead, vacant or null node (`ub = false` is part of `Rep`).
-/
namespace LruMem

theorem C07_stepB {p : Params} {c : CacheB} {l : List Nat} (op : Op) (o : Oracle) (h : RefInv p c l)
    (hd : op.direct = true) :
    ∃ l', RefInv p (stepB p c op o) l' ∧ (stepB p c op o).abs = (step p c.abs op o).cache := by
  obtain ⟨l', r, e⟩ := stepB_refinesW (p := p) op o h.toW hd
  exact ⟨l', ⟨r, e ▸ step_inv op o h.inv⟩, e⟩

def runOpsB (p : Params) (c : CacheB) : List (Op × Oracle) → CacheB
  | [] => c
  | (op, o) :: rest => runOpsB p (stepB p c op o) rest

theorem run_refines {p : Params} {P : Op → Prop}
    (hstep : ∀ {c : CacheB} {l : List Nat} (op : Op) (o : Oracle), RefInv p c l → P op →
      ∃ l', RefInv p (stepB p c op o) l' ∧ (stepB p c op o).abs = (step p c.abs op o).cache)
    (ops : List (Op × Oracle)) (hd : ∀ x ∈ ops, P x.1) :
    ∀ {c : CacheB} {l : List Nat}, RefInv p c l →
      ∃ l', RefInv p (runOpsB p c ops) l' ∧ (runOpsB p c ops).abs = runOps p c.abs ops := by
  induction ops with
  | nil => intro c l h; exact ⟨l, h, rfl⟩
  | cons a ops ih =>
    intro c l h
    obtain ⟨l1, h1, e1⟩ := hstep a.1 a.2 h (hd a (List.mem_cons_self ..))
    obtain ⟨l2, h2, e2⟩ := ih (fun x hx => hd x (List.mem_cons_of_mem _ hx)) h1
    exact ⟨l2, h2, e2.trans (congrArg (runOps p · ops) e1)⟩

/-- **C07 for whole histories.** Starting from `with_capacity(max, n)` (`new` is `n = 0`), after any
sequence of direct operations with any table-oracle choices: the links form the closed cycle
`seal → LRU … MRU → seal` mirrored by the `prev` links (`Rep.chain`), every listed node is a live
bucket of the current table (`Rep.full`, `Rep.owns`, `Rep.table`), no access so far touched a dead,
vacant or null node (`ub = false`), and the structure abstracts to the Level A state. -/
theorem C07_history (p : Params) (max n : Nat) (ops : List (Op × Oracle)) (hd : ∀ x ∈ ops, x.1.direct = true) :
    ∃ l', RefInv p (runOpsB p (CacheB.new max n) ops) l' ∧
      (runOpsB p (CacheB.new max n) ops).ub = false ∧
      (runOpsB p (CacheB.new max n) ops).abs = runOps p (CacheB.new max n).abs ops := by
  obtain ⟨l', h, e⟩ := run_refines C07_stepB ops hd (new_refinv p max n)
  exact ⟨l', h, h.rep.noUb, e⟩

/-- …so the Level A state reached is `Reachable`, and all Level A theorems apply to it. -/
theorem C07_history_reachable (p : Params) (max n : Nat) (ops : List (Op × Oracle)) (hd : ∀ x ∈ ops, x.1.direct = true) :
    Reachable p (runOpsB p (CacheB.new max n) ops).abs := by
  obtain ⟨_, _, _, e⟩ := C07_history p max n ops hd
  rw [e, new_abs]
  exact reachable_runOps (Reachable.new max n) ops

/-! non-vacuity: a concrete history through growth, promotion, mutate, retain, remove_lru -/
private def p1 : Params := ⟨64, 16, 18446744073709551615⟩
private def hist : List (Op × Oracle) :=
  [(.insert ⟨1, 0, 1⟩ ⟨0, 2⟩, {}), (.insert ⟨2, 0, 3⟩ ⟨0, 4⟩, {}), (.insert ⟨3, 0, 5⟩ ⟨0, 6⟩, {}),
   (.insert ⟨4, 0, 7⟩ ⟨0, 8⟩, {}), (.get 2, {}), (.mutate 1 (fun v => ({ v with heap := 40 }, 0)), {}),
   (.retain (fun i _ _ => i != 1), {}), (.removeLru, {})]
example : (∀ x ∈ hist, x.1.direct = true) := by decide +kernel
example : ((runOpsB p1 (CacheB.new 1000 0) hist).order.map fun a => ((runOpsB p1 (CacheB.new 1000 0) hist).ent a).key.id) = [2, 1]
    ∧ (runOpsB p1 (CacheB.new 1000 0) hist).ub = false := by decide +kernel

end LruMem
