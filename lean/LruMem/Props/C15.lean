import LruMem.Proofs.Reach
/-!
# C15 — `retain` removes exactly the rejected entries, visiting each once in LRU order
-/
namespace LruMem

/-- The predicate invocations recorded in an event list. -/
def predCalls : List Ev → List (Nat × Nat)
  | [] => []
  | .pred k v :: l => (k, v) :: predCalls l
  | _ :: l => predCalls l

/-- The decisions an `FnMut` predicate takes when it is shown the entries in list order with its
state threaded from one call to the next. -/
def decisions {σ : Type} (pr : σ → Key → Val → Bool × σ) : σ → List Entry → List Bool
  | _, [] => []
  | st, e :: l => (pr st e.key e.val).1 :: decisions pr (pr st e.key e.val).2 l

def keepBy : List Entry → List Bool → List Entry
  | e :: l, b :: bs => if b then e :: keepBy l bs else keepBy l bs
  | _, _ => []

def rejectBy : List Entry → List Bool → List Entry
  | e :: l, b :: bs => if b then rejectBy l bs else e :: rejectBy l bs
  | _, _ => []

theorem retainGo_closed {σ : Type} (pr : σ → Key → Val → Bool × σ) (st : σ) (l : List Entry) :
    (retainGo pr st l).kept = keepBy l (decisions pr st l) ∧
    (retainGo pr st l).removed = rejectBy l (decisions pr st l) ∧
    predCalls (retainGo pr st l).evs = l.map (fun e => (e.key.tok, e.val.tok)) ∧
    droppedToks (retainGo pr st l).evs = (rejectBy l (decisions pr st l)).flatMap (fun e => [e.key.tok, e.val.tok]) := by
  induction l generalizing st with
  | nil => exact ⟨rfl, rfl, rfl, rfl⟩
  | cons e l ih =>
    obtain ⟨a, b, c, d⟩ := ih (pr st e.key e.val).2
    cases hd : (pr st e.key e.val).1 <;>
      simp only [retainGo, decisions, hd, Bool.false_eq_true]
    -- `keepBy`, `rejectBy`, `predCalls`, `droppedToks`, `map` and `flatMap` compute on the events and the entry put in front
    · exact ⟨a, congrArg _ b, congrArg _ c, congrArg (_ :: _ :: ·) d⟩
    · exact ⟨congrArg _ a, b, congrArg _ c, d⟩

/-- `retain` calls the predicate exactly once per entry, from least- to most-recently-used, with
that entry's actual key and value objects, threading its state in that order. -/
theorem C15_visits {σ : Type} (c : Cache) (pr : σ → Key → Val → Bool × σ) (st : σ) (o : Oracle) :
    predCalls (retain c pr st o).evs = c.entries.map (fun e => (e.key.tok, e.val.tok)) :=
  (retainGo_closed pr st c.entries).2.2.1

/-- Afterwards precisely the rejected entries are gone and dropped (key and value, once each), the
others keep their relative order, and `len` and `current_size` reflect the removals. -/
theorem C15_result {p : Params} {σ : Type} {c : Cache} (pr : σ → Key → Val → Bool × σ) (st : σ) (o : Oracle)
    (h : InvA p c) :
    (retain c pr st o).cache.entries = keepBy c.entries (decisions pr st c.entries) ∧
    droppedToks (retain c pr st o).evs =
      (rejectBy c.entries (decisions pr st c.entries)).flatMap (fun e => [e.key.tok, e.val.tok]) ∧
    (retain c pr st o).cache.cur + sumSizes (rejectBy c.entries (decisions pr st c.entries)) = c.cur ∧
    (retain c pr st o).cache.shape.items = (keepBy c.entries (decisions pr st c.entries)).length ∧
    (retain c pr st o).cache.max = c.max := by
  obtain ⟨a, b, _, d⟩ := retainGo_closed pr st c.entries
  have hi := retain_inv pr st o h
  refine ⟨a, d, ?_, ?_, rfl⟩
  · rw [hi.cur, ← b]
    exact (retainGo_sum pr st c.entries).trans h.cur.symm
  · rw [← a]; exact hi.items

/-- For a predicate without state the result is the ordinary filter. -/
theorem C15_filter {p : Params} {c : Cache} (q : Key → Val → Bool) (o : Oracle) (_h : InvA p c) :
    (retain c (fun (_ : Unit) k v => (q k v, ())) () o).cache.entries = c.entries.filter (fun e => q e.key e.val) := by
  show (retainGo (fun (_ : Unit) k v => (q k v, ())) () c.entries).kept = _
  rw [(retainGo_closed _ () c.entries).1]
  generalize c.entries = l
  induction l with
  | nil => rfl
  | cons e l ih =>
    simp only [decisions, keepBy, List.filter_cons, ih]

/-- The rejected and the kept entries partition the old contents in order. -/
theorem C15_partition (l : List Entry) (bs : List Bool) (h : bs.length = l.length) :
    (keepBy l bs).Sublist l ∧ (rejectBy l bs).Sublist l ∧
    (keepBy l bs).length + (rejectBy l bs).length = l.length := by
  induction l generalizing bs with
  | nil => exact ⟨.slnil, .slnil, rfl⟩
  | cons e l ih =>
    cases bs with
    | nil => cases h
    | cons b bs =>
      obtain ⟨x, y, z⟩ := ih bs (Nat.succ.inj h)
      cases b
      · exact ⟨x.cons _, y.cons_cons _, congrArg Nat.succ z⟩
      · exact ⟨x.cons_cons _, y.cons _, (Nat.succ_add ..).trans (congrArg Nat.succ z)⟩

/-! ### non-vacuity: a stateful predicate (alternating) on four entries -/
private def p0 : Params := ⟨64, 16, 18446744073709551615⟩
private def c15 : Cache :=
  runOps p0 (Cache.new 1000) [(.insert ⟨1, 0, 1⟩ ⟨1, 2⟩, {}), (.insert ⟨2, 0, 3⟩ ⟨2, 4⟩, {}),
    (.insert ⟨3, 0, 5⟩ ⟨0, 6⟩, {}), (.insert ⟨4, 0, 7⟩ ⟨0, 8⟩, {}), (.get 1, {})]
example : ids (step p0 c15 (.retain fun i _ _ => i % 2 == 0) {}).cache.entries = [2, 4] := by decide +kernel
example : predCalls (step p0 c15 (.retain fun i _ _ => i % 2 == 0) {}).evs = [(3, 4), (5, 6), (7, 8), (1, 2)] := by decide +kernel
example : (step p0 c15 (.retain fun i _ _ => i % 2 == 0) {}).cache.cur = 130 := by decide +kernel

end LruMem
