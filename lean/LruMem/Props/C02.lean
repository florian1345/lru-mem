import LruMem.Proofs.Reach
import LruMem.Proofs.Spec
/-!
# C02 — size accounting is exact

`current_size` is the sum of `entry_size(key, value)` over exactly the entries held, `len` is their
number, `current_size = 0` iff empty; the per-operation deltas.
-/
namespace LruMem

/-- the sum of `entry_size` over the contents, recomputed from keys and values -/
def sumEntrySizes (p : Params) : List Entry → Nat
  | [] => 0
  | e :: l => entrySize p e.key e.val + sumEntrySizes p l

theorem sumEntrySizes_eq {p : Params} {l : List Entry} (h : ∀ e ∈ l, e.size = entrySize p e.key e.val) :
    sumEntrySizes p l = sumSizes l := by
  induction l with
  | nil => rfl
  | cons a l ih =>
    rw [sumEntrySizes, sumSizes_cons, ih fun e he => h e (List.mem_cons_of_mem _ he), h a (List.mem_cons_self ..)]

/-- At every reachable point: the total equals the sum of `entry_size(k, v)` over the contents, the
recorded per-entry sizes are those `entry_size`s, and `len()` is the number of entries. -/
theorem C02_exact {p : Params} {c : Cache} (h : Reachable p c) :
    c.cur = sumEntrySizes p c.entries ∧ (∀ e ∈ c.entries, e.size = entrySize p e.key e.val) ∧
    c.shape.items = c.entries.length := by
  have i := reachable_inv h
  exact ⟨by rw [sumEntrySizes_eq i.sizes]; exact i.cur, i.sizes, i.items⟩

theorem sumSizes_pos {p : Params} (hovh : 0 < p.ovh) {l : List Entry}
    (h : ∀ e ∈ l, e.size = entrySize p e.key e.val) (hne : l ≠ []) : 0 < sumSizes l := by
  cases l with
  | nil => exact absurd rfl hne
  | cons a l =>
    rw [sumSizes_cons, h a (List.mem_cons_self ..)]
    exact Nat.lt_of_lt_of_le hovh (Nat.le_trans (Nat.le_add_left ..) (Nat.le_add_right ..))

/-- `current_size() == 0` exactly when the cache is empty (`size_of::<Entry>() > 0`). -/
theorem C02_zero_iff_empty {p : Params} (hovh : 0 < p.ovh) {c : Cache} (h : Reachable p c) :
    c.cur = 0 ↔ c.entries = [] := by
  have i := reachable_inv h
  constructor
  · intro h0
    by_cases hne : c.entries = []
    · exact hne
    · have := sumSizes_pos hovh i.sizes hne
      rw [← i.cur, h0] at this; exact absurd this (Nat.lt_irrefl 0)
  · intro he
    rw [i.cur, he]; rfl

/-- `len() == 0` exactly when empty (`is_empty`). -/
theorem C02_len {p : Params} {c : Cache} (h : Reachable p c) : c.shape.items = 0 ↔ c.entries = [] := by
  rw [(reachable_inv h).items]; exact List.length_eq_zero_iff

/-- A fresh insertion that fits raises the total by exactly the pair's `entry_size`. -/
theorem C02_insert_fresh {p : Params} {c : Cache} (k : Key) (v : Val) (o : Oracle) (h : InvA p c)
    (hfresh : lookup c.entries k.id = none) (hfit : c.cur + entrySize p k v ≤ c.max) :
    (insert p c k v o).cache.cur = c.cur + entrySize p k v := by
  rw [insert_fresh k v o hfresh hfit]
  exact (insertUnchecked_spec _ _ _).2.1

/-- Every removal lowers the total by the departing entry's recorded size. -/
theorem C02_remove {c : Cache} (id : Nat) (o : Oracle) (e : Entry)
    (he : lookup c.entries id = some e) :
    (removeEntry c id o).cache.cur = c.cur - e.size ∧ (remove c id o).cache.cur = c.cur - e.size := by
  simp [removeEntry, remove, he]

/-- An eviction loop lowers the total by exactly the recorded sizes of what it evicts. -/
theorem C02_eject (l : List Entry) (cur target : Nat) (h : cur = sumSizes l) :
    (eject l cur target).cur + sumSizes (eject l cur target).evicted = cur := by
  obtain ⟨_, hc, _, happ⟩ := eject_spec l cur target h
  rw [hc, Nat.add_comm, ← sumSizes_append, happ, h]

/-- `mutate` changes the entry's recorded size *and* the total by the same amount: afterwards the
mutated entry records `entry_size(key, new value)` (so a later eviction subtracts the right amount). -/
theorem C02_mutate_both {p : Params} {c : Cache} (id : Nat) (f : Val → Val × Nat) (o : Oracle) (h : InvA p c) :
    (mutate p c id f o).cache.cur = sumSizes (mutate p c id f o).cache.entries ∧
    ∀ e ∈ (mutate p c id f o).cache.entries, e.size = entrySize p e.key e.val :=
  ⟨(step_inv (.mutate id f) o h).cur, (step_inv (.mutate id f) o h).sizes⟩

/-- `clear` and a drain reset the total to 0 and the contents to nothing. -/
theorem C02_clear (c : Cache) : (clear c).cache.cur = 0 ∧ (clear c).cache.entries = [] ∧ (clear c).cache.shape.items = 0 :=
  ⟨rfl, rfl, rfl⟩

theorem C02_drain (c : Cache) (calls : List Bool) (forget : Bool) :
    ((iterScenario c .drain calls forget).cache.map (·.cur)) = some 0 := rfl

/-- `clone` copies the total and the per-entry sizes. -/
theorem C02_clone (c : Cache) (base : Nat) :
    (clone c base).1.cur = c.cur ∧ (clone c base).1.entries.map (·.size) = c.entries.map (·.size) :=
  ⟨rfl, cloneEntries_map _ (fun _ _ _ => rfl) _ _⟩

/-- No drift: the accounting is exact after any history whatsoever. -/
theorem C02_history {p : Params} (max n : Nat) (l : List (Op × Oracle)) :
    (runOps p (Cache.withCapacity max n) l).cur = sumEntrySizes p (runOps p (Cache.withCapacity max n) l).entries :=
  (C02_exact (reachable_runOps (Reachable.new max n) l)).1

/-! ### non-vacuity: mutate, then evict that very entry — the right amount is subtracted -/
private def p0 : Params := ⟨64, 16, 18446744073709551615⟩
private def c2 : Cache :=
  runOps p0 (Cache.new 300) [(.insert ⟨1, 0, 1⟩ ⟨4, 2⟩, {}), (.insert ⟨2, 3, 3⟩ ⟨10, 4⟩, {}),
    (.mutate 1 (fun v => ({ v with heap := 50 }, 0)), {}), (.get 2, {})]
example : c2.cur = 191 ∧ c2.entries.map (·.size) = [114, 77] := by decide +kernel
example : (step p0 c2 (.setMaxSize 100) {}).cache.cur = 77 := by decide +kernel

end LruMem
