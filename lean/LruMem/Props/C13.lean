import LruMem.Proofs.Reach
import LruMem.Proofs.Spec
/-!
# C13 — capacity management is transparent, meets its bounds, and growth is bounded

`capacity() = items + growth_left`; `fullCap = bucketsToCap buckets` is what the allocated table
can hold (the two differ by the number of tombstones).
-/
namespace LruMem

def fullCap (c : Cache) : Nat := bucketsToCap c.shape.buckets

/-- `reserve(a)` that returns, and `try_reserve(a) = Ok`, leave `capacity ≥ len + a`. -/
theorem C13_reserve {p : Params} {c : Cache} (a : Nat) (o : Oracle) (h : InvA p c) :
    ((reserve p c a o).status = .ok → (reserve p c a o).cache.shape.capacity ≥ c.entries.length + a) ∧
    ((tryReserve p c a o).out = .reserveOk → (tryReserve p c a o).cache.shape.capacity ≥ c.entries.length + a) := by
  have hfc := le_freshCap (c.shape.items + a)
  have hcap := Shape.rebuilt_capacity c.shape (n := c.shape.items + a) (Nat.le_trans (Nat.le_add_right _ _) hfc)
  rw [reserve_eq, tryReserve_eq, ← h.items]
  by_cases hm : reserveMoves p c.shape a o = true
  · rw [if_pos hm, if_pos hm]; exact ⟨fun _ => hcap ▸ hfc, fun _ => hcap ▸ hfc⟩
  · rw [if_neg hm, if_neg hm]
    -- without a move the capacity was sufficient already, or the call has failed
    constructor
    · intro hs
      by_cases hx : c.shape.items + a > p.usizeMax ∨ c.shape.capacity < c.shape.items + a
      · rw [if_pos hx] at hs; cases hs
      · exact Nat.le_of_not_lt fun hlt => hx (.inr hlt)
    · intro ho
      by_cases h1 : c.shape.items + a > p.usizeMax
      · rw [if_pos h1] at ho; cases ho
      · by_cases h2 : c.shape.capacity < c.shape.items + a
        · rw [if_neg h1, if_pos h2] at ho; split at ho <;> cases ho
        · exact Nat.le_of_not_lt h2

/-- `shrink_to(m)` / `shrink_to_fit` never raise the capacity and leave it `≥ max(len, m)` unless
they leave it unchanged. (After the `fix:` commit; the pre-fix code violated the first conjunct
when tombstones were present — finding F5.) -/
theorem C13_shrink {p : Params} {c : Cache} (m : Nat) (o : Oracle) (h : InvA p c) :
    (shrinkTo p c m o).cache.shape.capacity ≤ c.shape.capacity ∧
    ((shrinkTo p c m o).cache.shape.capacity ≥ Nat.max c.entries.length m ∨
     (shrinkTo p c m o).cache.shape.capacity = c.shape.capacity) := by
  have hfc := le_freshCap (Nat.max c.shape.items m)
  have hcap := Shape.rebuilt_capacity c.shape (n := Nat.max c.shape.items m)
    (Nat.le_trans (Nat.le_max_left _ _) hfc)
  rw [shrinkTo_eq, ← h.items]
  by_cases hm : shrinkMoves p c.shape m o = true
  · rw [if_pos hm]
    simp only [shrinkMoves, Bool.and_eq_true, decide_eq_true_eq] at hm
    exact ⟨hcap ▸ hm.2.2, Or.inl (hcap ▸ hfc)⟩
  · rw [if_neg hm]; exact ⟨Nat.le_refl _, Or.inr rfl⟩

/-- A failing `try_reserve` (overflow or allocator refusal) leaves the cache exactly as it was; a
`reserve` that panics (its `unwrap`) does so before anything is touched. -/
theorem C13_fail_atomic (p : Params) (c : Cache) (a : Nat) (o : Oracle) :
    ((tryReserve p c a o).out ≠ .reserveOk → (tryReserve p c a o).cache = c) ∧
    ((reserve p c a o).status = .implPanic → (reserve p c a o).cache = c) := by
  rw [reserve_eq, tryReserve_eq]
  by_cases hm : reserveMoves p c.shape a o = true
  · rw [if_pos hm, if_pos hm]; exact ⟨fun hh => absurd rfl hh, fun hh => nomatch hh⟩
  · rw [if_neg hm, if_neg hm]; exact ⟨fun _ => rfl, fun _ => rfl⟩

/-- `try_reserve` fails exactly on arithmetic/layout overflow or allocator refusal of a needed
reallocation. -/
theorem C13_tryReserve_classify (p : Params) (c : Cache) (a : Nat) (o : Oracle) :
    (tryReserve p c a o).out =
      if c.shape.items + a > p.usizeMax then .reserveOverflow
      else if c.shape.capacity < c.shape.items + a then
        (if !tableOk p (c.shape.items + a) then .reserveOverflow
         else if !o.allocOk then .reserveAlloc else .reserveOk)
      else .reserveOk := by
  simp only [tryReserve, apply_ite Res.out]

/-- None of the capacity operations changes contents, order, sizes or the limit. -/
theorem C13_transparent (p : Params) (c : Cache) (a : Nat) (o : Oracle) :
    ((reserve p c a o).cache.entries = c.entries ∧ (reserve p c a o).cache.cur = c.cur ∧ (reserve p c a o).cache.max = c.max) ∧
    ((tryReserve p c a o).cache.entries = c.entries ∧ (tryReserve p c a o).cache.cur = c.cur ∧ (tryReserve p c a o).cache.max = c.max) ∧
    ((shrinkTo p c a o).cache.entries = c.entries ∧ (shrinkTo p c a o).cache.cur = c.cur ∧ (shrinkTo p c a o).cache.max = c.max) ∧
    ((shrinkToFit p c o).cache.entries = c.entries ∧ (shrinkToFit p c o).cache.cur = c.cur ∧ (shrinkToFit p c o).cache.max = c.max) :=
  ⟨(reserve_resized p c a o).frame.1, (tryReserve_resized p c a o).frame.1, (shrinkTo_resized p c a o).frame.1,
    (shrinkTo_resized p c 0 o).frame.1⟩

/-- They drop nothing either. -/
theorem C13_no_drops (p : Params) (c : Cache) (a : Nat) (o : Oracle) :
    droppedToks (reserve p c a o).evs = [] ∧ droppedToks (tryReserve p c a o).evs = [] ∧
    droppedToks (shrinkTo p c a o).evs = [] :=
  ⟨(reserve_resized p c a o).frame.2.1, (tryReserve_resized p c a o).frame.2.1, (shrinkTo_resized p c a o).frame.2.1⟩

/-- `insert_unchecked` rebuilds the table only when no growth is left (and no tombstone is reused),
and then to the smallest table for twice the current entries; otherwise the buckets are untouched. -/
theorem C13_growth_step (c : Cache) (e : Entry) (o : Oracle) :
    ((insertUnchecked c e o).cache.shape.buckets = c.shape.buckets ∧ (insertUnchecked c e o).rebuilt = none) ∨
    (c.shape.growthLeft = 0 ∧ (insertUnchecked c e o).rebuilt = some c.entries.length ∧
     (insertUnchecked c e o).cache.shape.buckets = bucketsFor (Nat.max (2 * c.shape.items) 1)) := by
  rcases insertUnchecked_cases c e o with ⟨-, eq⟩ | ⟨hc, eq⟩ <;> rw [eq]
  · exact Or.inl ⟨rfl, rfl⟩
  · have hgl : c.shape.growthLeft = 0 :=
      Nat.eq_zero_of_not_pos (of_decide_eq_false (Bool.or_eq_false_iff.mp hc).1)
    exact Or.inr ⟨hgl, rfl, by simp [Shape.inserted, Shape.rebuilt, Shape.capacity, hgl]⟩

/-- A cache created `with_capacity(n)` (or any table without tombstones) takes fresh insertions up
to its capacity without rebuilding: buckets and capacity stay the same. -/
theorem C13_with_capacity {p : Params} {c : Cache} (k : Key) (v : Val) (o : Oracle) (h : InvA p c)
    (hnt : c.shape.items + c.shape.growthLeft = bucketsToCap c.shape.buckets)
    (hroom : c.entries.length < c.shape.capacity)
    (hfit : entrySize p k v ≤ c.max - c.cur) (hfree : lookup c.entries k.id = none) :
    (insert p c k v o).cache.shape.buckets = c.shape.buckets ∧
    (insert p c k v o).cache.shape.capacity = c.shape.capacity ∧
    (insert p c k v o).cache.shape.items + (insert p c k v o).cache.shape.growthLeft =
      bucketsToCap (insert p c k v o).cache.shape.buckets ∧
    (insert p c k v o).cache.entries.length = c.entries.length + 1 ∧
    (insert p c k v o).rebuilt = none := by
  have hgl : 0 < c.shape.growthLeft := Nat.lt_of_add_lt_add_left (h.items ▸ hroom)
  have hnoreuse : c.shape.reuses o.reuse = false := by
    have : ¬ 0 < c.shape.tombstones := by
      show ¬ 0 < bucketsToCap c.shape.buckets - c.shape.items - c.shape.growthLeft
      rw [← hnt, Nat.add_sub_cancel_left, Nat.sub_self]; exact Nat.lt_irrefl 0
    rw [Shape.reuses, decide_eq_false this, Bool.and_false]
  rw [insert_fresh k v o hfree (Nat.add_le_of_le_sub' h.bound hfit)]
  rcases insertUnchecked_cases c ⟨k, v, entrySize p k v⟩ o with ⟨-, eq⟩ | ⟨hc, -⟩
  · -- a slot never used before is taken: one item more, one growth less
    have hsum : (c.shape.inserted o.reuse).items + (c.shape.inserted o.reuse).growthLeft =
        c.shape.items + c.shape.growthLeft := by
      rw [Shape.inserted, hnoreuse]
      exact (Nat.add_assoc ..).trans (congrArg _ (Nat.add_sub_cancel' hgl))
    rw [eq]
    exact ⟨rfl, hsum, hsum.trans hnt, List.length_append, rfl⟩
  · rw [Shape.canInsert, decide_eq_true hgl, Bool.true_or] at hc; cases hc

/-- Iterating the previous theorem: fresh, fitting insertions of the pairs `kvs` into a tombstone-free table with
`len + kvs.length ≤ capacity` leave buckets and capacity unchanged — in particular `with_capacity(n)` followed
by `n` insertions (`n ≤ freshCap n`). -/
theorem C13_with_capacity_n {p : Params} (kvs : List (Key × Val)) (os : List Oracle) :
    ∀ (c : Cache), InvA p c → c.shape.items + c.shape.growthLeft = bucketsToCap c.shape.buckets →
    c.entries.length + kvs.length ≤ c.shape.capacity → os.length = kvs.length →
    (∀ (c' : Cache) (kv : Key × Val), kv ∈ kvs → c'.max = c.max → entrySize p kv.1 kv.2 ≤ c'.max - c'.cur) →
    ((kvs.map (·.1.id)) ++ ids c.entries).Nodup →
    let c' := (kvs.zip os).foldl (fun c x => (insert p c x.1.1 x.1.2 x.2).cache) c
    c'.shape.buckets = c.shape.buckets ∧ c'.shape.capacity = c.shape.capacity := by
  induction kvs generalizing os with
  | nil => intro c _ _ _ _ _ _; exact ⟨rfl, rfl⟩
  | cons kv kvs ih =>
    intro c h hnt hroom hlen hfit hnd
    cases os with
    | nil => cases hlen
    | cons o os =>
      have hfree : lookup c.entries kv.1.id = none :=
        lookup_none_iff.mpr fun hm => (List.nodup_cons.mp hnd).1 (List.mem_append_right _ hm)
      have hk := hfit c kv (List.mem_cons_self ..) rfl
      have hstep := C13_with_capacity kv.1 kv.2 o h hnt
        (Nat.lt_of_lt_of_le (Nat.lt_add_of_pos_right (Nat.succ_pos _)) hroom) hk hfree
      have hmax : (insert p c kv.1 kv.2 o).cache.max = c.max :=
        (insert_spec kv.1 kv.2 o h.weak (Nat.le_trans hk (Nat.sub_le _ _))).2.2.1
      have hent : (insert p c kv.1 kv.2 o).cache.entries = c.entries ++ [⟨kv.1, kv.2, entrySize p kv.1 kv.2⟩] :=
        insert_fresh_entries kv.1 kv.2 o h hk hfree
      simp only [List.zip_cons_cons, List.foldl_cons]
      have := ih os (insert p c kv.1 kv.2 o).cache (insert_inv kv.1 kv.2 o h) hstep.2.2.1
        (by rw [hstep.2.2.2.1, hstep.2.1, Nat.add_assoc, Nat.add_comm 1]; exact hroom) (Nat.succ.inj hlen)
        (fun c' kv' hkv hm => hfit c' kv' (List.mem_cons_of_mem _ hkv) (hm.trans hmax))
        (by
          rw [hent, ids_append, ← List.append_assoc]
          exact (List.perm_append_singleton _ _).nodup_iff.mpr hnd)
      rw [this.1, this.2, hstep.1, hstep.2.1]
      exact ⟨rfl, rfl⟩

theorem max_mono_left {a b : Nat} (h : a ≤ b) (k : Nat) : Nat.max (4 * a) k ≤ Nat.max (4 * b) k :=
  Nat.max_le.mpr ⟨Nat.le_trans (Nat.mul_le_mul_left 4 h) (Nat.le_max_left ..), Nat.le_max_right ..⟩

theorem insertUnchecked_fullCap (c : Cache) (e : Entry) (o : Oracle) (hi : c.shape.items = c.entries.length) :
    fullCap (insertUnchecked c e o).cache = fullCap c ∨
    fullCap (insertUnchecked c e o).cache < Nat.max (4 * (insertUnchecked c e o).cache.entries.length) 16 := by
  rcases C13_growth_step c e o with ⟨g1, _⟩ | ⟨_, _, g3⟩
  · exact Or.inl (congrArg bucketsToCap g1)
  · right
    rw [(insertUnchecked_spec c e o).1, List.length_append, ← hi, fullCap, g3]
    exact Nat.lt_of_lt_of_le (freshCap_double_lt c.shape.items) (max_mono_left (Nat.le_succ c.shape.items) 16)

theorem fullCap_resized {c : Cache} {reqs : List Nat} {r : Res} (hr : Resized c reqs r) :
    fullCap r.cache = fullCap c ∨ ∃ n ∈ reqs, fullCap r.cache = freshCap n := by
  cases hr with
  | same => exact Or.inl rfl
  | rebuilt n _ hr => exact Or.inr ⟨n, hr, rfl⟩

theorem fullCap_simple {c : Cache} {o : Oracle} {r : Res} (hs : Simple c o r) : fullCap r.cache = fullCap c := by
  cases hs <;> rfl

/-- One step: the allocated table either stays, or becomes the table of an explicit request, or is
the result of an automatic growth — which is below `max(4·len, 16)` for the new length. -/
theorem C13_step_fullCap {p : Params} {c : Cache} (op : Op) (o : Oracle) (h : InvW c) :
    fullCap (step p c op o).cache = fullCap c ∨
    (∃ r ∈ explicitReq c op, fullCap (step p c op o).cache = freshCap r) ∨
    fullCap (step p c op o).cache < Nat.max (4 * (step p c op o).cache.entries.length) 16 := by
  cases op with
  | insert k v =>
    by_cases hs : entrySize p k v ≤ c.max
    · obtain ⟨hi, -, -, -⟩ := invW_madeRoom h k.id (c.max - entrySize p k v) o.tombs
      simp only [step, insert_eq k v o h hs]
      exact (insertUnchecked_fullCap _ ⟨k, v, entrySize p k v⟩ o hi.items).imp_right Or.inr
    · left; show fullCap (insert p c k v o).cache = _; rw [insert_too_large k v o (Nat.lt_of_not_le hs)]
  | tryInsert k v =>
    rcases tryInsert_cases p c k v o with ⟨out, evs, e, -⟩ | ⟨-, -, e⟩ <;> simp only [step, e]
    · exact Or.inl trivial
    · exact (insertUnchecked_fullCap c _ o h.items).imp_right Or.inr
  | reserve | tryReserve | shrinkTo | shrinkToFit => exact (fullCap_resized (step_resized o rfl)).imp_right Or.inl
  | mutate id f =>
    left
    show fullCap (mutate p c id f o).cache = _
    rcases mutate_cases p c id f o with ⟨-, eq⟩ | ⟨e, d, -, -, -, -, eq⟩ | ⟨e, d, -, -, -, -, eq⟩ | ⟨e, d, -, -, -, eq⟩
    · rw [eq]
    · rw [eq]; exact fullCap_simple (r := step p c (.removeEntry id) o) (step_simple o h.nodup rfl)
    · rw [eq]; rfl
    · rw [eq]; rfl
  | setMaxSize | retain | cloneProbe => exact Or.inl rfl
  | iterate kind calls forget => exact Or.inl ((step_iterate p c kind calls forget o).elim (congrArg fullCap) (congrArg fullCap))
  | _ => exact Or.inl (fullCap_simple (step_simple o h.nodup rfl))

/-- Histories annotated with the peak length so far and the explicit capacity requests so far
(`with_capacity`, `reserve`/`try_reserve` targets, `shrink_to` targets, a clone's source capacity). -/
inductive ReachCap (p : Params) : Cache → Nat → List Nat → Prop
  | new (max n : Nat) : ReachCap p (Cache.withCapacity max n) 0 [n]
  | step {c : Cache} {peak : Nat} {reqs : List Nat} (op : Op) (o : Oracle) : ReachCap p c peak reqs →
      ReachCap p (step p c op o).cache (Nat.max peak (step p c op o).cache.entries.length) (explicitReq c op ++ reqs)
  | clone {c : Cache} {peak : Nat} {reqs : List Nat} (base : Nat) : ReachCap p c peak reqs →
      ReachCap p (clone c base).1 c.entries.length [c.shape.capacity]

theorem ReachCap.reachable {p : Params} {c : Cache} {peak : Nat} {reqs : List Nat} (h : ReachCap p c peak reqs) :
    Reachable p c := by
  induction h with
  | new max n => exact .new max n
  | step op o _ ih => exact .step op o ih
  | clone base _ ih => exact .clone base ih

/-- However long the cache churns — whatever the tombstone oracle does — the table it holds is below
`max(4 × peak len, 16)` or is exactly the table of some explicit request; `capacity()` is at most
that. -/
theorem C13_growth {p : Params} {c : Cache} {peak : Nat} {reqs : List Nat} (h : ReachCap p c peak reqs) :
    c.entries.length ≤ peak ∧
    (fullCap c < Nat.max (4 * peak) 16 ∨ ∃ r ∈ reqs, fullCap c = freshCap r) ∧
    c.shape.capacity ≤ fullCap c := by
  induction h with
  | new max n =>
    exact ⟨Nat.le_refl _, Or.inr ⟨n, .head _, rfl⟩, (new_inv p max n).room⟩
  | @step c peak reqs op o hr ih =>
    have hinv := reachable_inv hr.reachable
    refine ⟨Nat.le_max_right _ _, ?_, (step_inv op o hinv).room⟩
    have hpk : peak ≤ Nat.max peak (step p c op o).cache.entries.length := Nat.le_max_left _ _
    have hln : (step p c op o).cache.entries.length ≤ Nat.max peak (step p c op o).cache.entries.length := Nat.le_max_right _ _
    rcases C13_step_fullCap op o hinv.weak with g | ⟨r, hr1, hr2⟩ | g
    · rw [g]
      rcases ih.2.1 with i | ⟨r, hr1, hr2⟩
      · exact Or.inl (Nat.lt_of_lt_of_le i (max_mono_left hpk 16))
      · exact Or.inr ⟨r, List.mem_append_right _ hr1, hr2⟩
    · exact Or.inr ⟨r, List.mem_append_left _ hr1, hr2⟩
    · exact Or.inl (Nat.lt_of_lt_of_le g (max_mono_left hln 16))
  | @clone c peak reqs base hr ih =>
    have hinv := reachable_inv hr.reachable
    exact ⟨Nat.le_of_eq (length_cloneEntries ..), Or.inr ⟨c.shape.capacity, .head _, rfl⟩,
      (clone_inv base hinv).1.room⟩

/-! ### non-vacuity: a 32-bucket table with a tombstone, where the pre-fix `shrink_to` raised the capacity -/
private def p0 : Params := ⟨64, 16, 18446744073709551615⟩
private def tomb : Cache :=
  { entries := (List.range 26).map fun i => ⟨⟨i, 0, 2 * i + 1⟩, ⟨0, 2 * i + 2⟩, 64⟩, cur := 26 * 64, max := 100000,
    shape := { buckets := 32, items := 26, growthLeft := 1 } }
example : tomb.shape.capacity = 27 ∧ tomb.shape.tombstones = 1 := by decide +kernel
example : (shrinkTo p0 tomb 3 {}).cache.shape.capacity = 27 := by decide +kernel
-- the legacy code moved into a fresh table for max(len, 3) = 26 elements, whose capacity is 28
example : freshCap 26 = 28 := by decide +kernel

end LruMem
