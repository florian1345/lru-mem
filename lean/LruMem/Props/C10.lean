import LruMem.Proofs.Reach
import LruMem.Proofs.Spec
/-!
# C10 — rejected insertions are atomic, precisely classified, and return the pair
-/
namespace LruMem

def Out.isInsErr : Out → Bool
  | .insTooLarge .. | .tryTooLarge .. | .tryWouldEject .. | .tryOccupied .. => true
  | _ => false

theorem insert_isInsErr {p : Params} {c : Cache} (k : Key) (v : Val) (o : Oracle) :
    (insert p c k v o).out.isInsErr = true ↔ entrySize p k v > c.max := by
  by_cases hs : entrySize p k v > c.max
  · rw [insert_too_large k v o hs]; exact iff_of_true rfl hs
  · refine iff_of_false (fun hh => ?_) hs
    simp only [insert, hs, if_false, apply_ite Res.out] at hh
    split at hh <;> cases hh

/-- `insert` fails with `EntryTooLarge` exactly when `entry_size(key, value) > max_size`, and then
reports that very pair with the exact figures. -/
theorem C10_insert_iff {p : Params} {c : Cache} (k : Key) (v : Val) (o : Oracle) (h : InvA p c) :
    ((insert p c k v o).out = .insTooLarge k v (entrySize p k v) c.max ↔ entrySize p k v > c.max) ∧
    ((insert p c k v o).out.isInsErr = true ↔ entrySize p k v > c.max) :=
  ⟨⟨fun ho => (insert_isInsErr k v o).mp (by rw [ho]; rfl), fun hs => by rw [insert_too_large k v o hs]⟩,
    insert_isInsErr k v o⟩

/-- `try_insert` is a total decision list: too large; else would eject; else occupied; else success.
Simultaneous conditions resolve in exactly this precedence, and the figures are exact
(`free_memory = max_size - current_size`). -/
theorem C10_try_classify {p : Params} {c : Cache} (k : Key) (v : Val) (o : Oracle) (h : InvA p c) :
    (tryInsert p c k v o).out =
      if entrySize p k v > c.max then .tryTooLarge k v (entrySize p k v) c.max
      else if entrySize p k v > c.max - c.cur then .tryWouldEject k v (entrySize p k v) (c.max - c.cur)
      else if (lookup c.entries k.id).isSome then .tryOccupied k v
      else .unit :=
  tryInsert_out p c k v o

/-- Every failure leaves the cache exactly as it was (contents, order, sizes, table shape), drops
nothing, and hands back the very key and value objects that were passed in. -/
theorem C10_atomic {p : Params} {c : Cache} (k : Key) (v : Val) (o : Oracle) :
    ((insert p c k v o).out.isInsErr = true →
      (insert p c k v o).cache = c ∧ droppedToks (insert p c k v o).evs = [] ∧
      (insert p c k v o).out.owned = [k.tok, v.tok]) ∧
    ((tryInsert p c k v o).out.isInsErr = true →
      (tryInsert p c k v o).cache = c ∧ droppedToks (tryInsert p c k v o).evs = [] ∧
      (tryInsert p c k v o).out.owned = [k.tok, v.tok]) := by
  constructor
  · intro hh
    rw [insert_too_large k v o ((insert_isInsErr k v o).mp hh)]
    exact ⟨rfl, rfl, rfl⟩
  · rcases tryInsert_cases p c k v o with ⟨out, evs, e, ho, hd, -⟩ | ⟨-, -, e⟩ <;> rw [e]
    · exact fun _ => ⟨rfl, hd, ho⟩
    · exact fun hh => nomatch hh

/-- An entry whose size fits the free space is inserted without evicting anything
(`insert` of an absent key and `try_insert` alike). -/
theorem C10_fit_no_evict {p : Params} {c : Cache} (k : Key) (v : Val) (o : Oracle) (h : InvA p c)
    (hfit : entrySize p k v ≤ c.max - c.cur) (hfree : lookup c.entries k.id = none) :
    (insert p c k v o).cache.entries = c.entries ++ [⟨k, v, entrySize p k v⟩] ∧
    (tryInsert p c k v o).cache.entries = c.entries ++ [⟨k, v, entrySize p k v⟩] :=
  ⟨insert_fresh_entries k v o h hfit hfree, (tryInsert_spec k v o hfit hfree).1⟩

/-! ### non-vacuity: a pair meeting all three failure conditions at once is classified `EntryTooLarge` -/
private def p0 : Params := ⟨64, 16, 18446744073709551615⟩
private def c1 : Cache := runOps p0 (Cache.new 200) [(.insert ⟨1, 0, 1⟩ ⟨4, 2⟩, {}), (.insert ⟨2, 0, 3⟩ ⟨4, 4⟩, {})]
example : (step p0 c1 (.tryInsert ⟨1, 0, 5⟩ ⟨137, 6⟩) {}).out = .tryTooLarge ⟨1, 0, 5⟩ ⟨137, 6⟩ 201 200 := by decide +kernel
example : (step p0 c1 (.tryInsert ⟨1, 0, 5⟩ ⟨1, 6⟩) {}).out = .tryWouldEject ⟨1, 0, 5⟩ ⟨1, 6⟩ 65 64 := by decide +kernel
example : (step p0 c1 (.tryInsert ⟨1, 0, 5⟩ ⟨0, 6⟩) {}).out = .tryOccupied ⟨1, 0, 5⟩ ⟨0, 6⟩ := by decide +kernel
example : (step p0 c1 (.tryInsert ⟨3, 0, 5⟩ ⟨0, 6⟩) {}).out = .unit := by decide +kernel

end LruMem
