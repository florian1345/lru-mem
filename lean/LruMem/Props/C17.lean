import LruMem.Props.C12
/-!
# C17 — leaking an iterator can only leak, never double-drop

Level A, after the `fix:` commit that makes `Drain` detach the entries when it is created
(finding F1): for every iterator kind, every cache, every sequence of `next`/`next_back` calls after
which the iterator is passed to `mem::forget`:
* every object the cache owned is yielded, dropped or leaked — each exactly once (no double drop);
* a cache that was being drained is the emptied cache, which satisfies the invariant (so it is a
  valid, usable cache: every other theorem applies to it);
* borrowing iterators leave the cache untouched.
"Read after being moved out" is a pointer-level notion: Level B (`Ptr.lean`).
-/
namespace LruMem

/-- No object is dropped twice or both dropped and yielded: with pairwise distinct objects in the
cache, the dropped and yielded objects of a forgotten owning iterator are pairwise distinct and all
come from the cache; the rest is leaked. -/
theorem C17_forget_once (c : Cache) (kind : IterKind) (calls : List Bool) (hk : kind.borrowing = false)
    (hnd : (toks c.entries).Nodup) :
    (droppedToks (iterScenario c kind calls true).evs ++ (iterScenario c kind calls true).out.owned ++
      toks (iterCalls c.entries calls).2).Perm (toks c.entries) ∧
    (droppedToks (iterScenario c kind calls true).evs ++ (iterScenario c kind calls true).out.owned).Nodup := by
  have hperm : (droppedToks (iterScenario c kind calls true).evs ++ (iterScenario c kind calls true).out.owned ++
      toks (iterCalls c.entries calls).2).Perm (toks c.entries) := List.perm_iff_count.mpr fun t => by
    rw [List.count_append, List.count_append]
    exact (C06_owning_iter c kind calls true hk t).1.symm
  exact ⟨hperm, (List.nodup_append.mp (hperm.symm.nodup_iff.mp hnd)).1⟩

/-- A forgotten `Drain` leaves the emptied cache behind, whatever was consumed: a valid cache. -/
theorem C17_drain_valid {p : Params} {c : Cache} (calls : List Bool) (h : InvA p c) :
    ∃ c', (iterScenario c .drain calls true).cache = some c' ∧ c'.entries = [] ∧ c'.cur = 0 ∧ InvA p c' :=
  ⟨_, rfl, rfl, rfl, cleared_inv c⟩

/-- …and dropping that cache afterwards drops nothing: nothing that the drain may already have handed
out is touched again. -/
theorem C17_drain_then_drop (c : Cache) (calls : List Bool) :
    ((iterScenario c .drain calls true).cache.map fun c' => droppedToks (dropCache c')) = some [] := rfl

/-- A forgotten borrowing iterator is a no-op. -/
theorem C17_borrowing (c : Cache) (kind : IterKind) (calls : List Bool) (h : kind.borrowing = true) :
    (iterScenario c kind calls true).cache = some c ∧ (iterScenario c kind calls true).evs = [] :=
  C12_borrowing c kind calls true h

/-- A forgotten `into_iter`/`into_keys`/`into_values` owns the cache: nothing is left to be dropped
later (the cache is gone with it). -/
theorem C17_into_gone (c : Cache) (kind : IterKind) (calls : List Bool) (h : kind.borrowing = false) (hd : kind ≠ .drain) :
    (iterScenario c kind calls true).cache = none := by
  cases kind with
  | intoIter | intoKeys | intoValues => rfl
  | drain => exact absurd rfl hd
  | _ => cases h

/-! ### non-vacuity: the F1 scenario — drain, take one, forget -/
private def p0 : Params := ⟨64, 16, 18446744073709551615⟩
private def c17 : Cache :=
  runOps p0 (Cache.new 1000) [(.insert ⟨0, 0, 1⟩ ⟨0, 2⟩, {}), (.insert ⟨1, 0, 3⟩ ⟨0, 4⟩, {}), (.insert ⟨2, 0, 5⟩ ⟨0, 6⟩, {})]
example : (iterScenario c17 .drain [true] true).out.owned = [1, 2] ∧ (iterScenario c17 .drain [true] true).evs = [] ∧
    ((iterScenario c17 .drain [true] true).cache.map (·.shape.items)) = some 0 := by decide +kernel

end LruMem
