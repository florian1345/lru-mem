import LruMem.Props.C07b
import LruMem.Proofs.Cursor
import LruMem.Props.C14b
import LruMem.Props.C19
/-!
# C07 for histories with iterators and clones in them

`C07_stepB` covered the operations executed on the cache itself. Here the remaining ones that leave
a cache behind are added — borrowing iterators (any call sequence, dropped or leaked), `drain` (any
call sequence, dropped or leaked) and `clone` followed by the drop of the clone — so that
`C07_history_all` speaks about every history a caller can build until the cache is consumed by
`into_iter` / `into_keys` / `into_values` (after which there is no cache to speak about; what those
do to the nodes is `C12_ptr_into` / `C17_ptr_into`).
-/
namespace LruMem

/-- operations after which the cache still exists -/
def Op.keepsCache : Op → Bool
  | .iterate kind _ _ => kind.borrowing || kind == .drain
  | _ => true

theorem stepB_cloneProbe {p : Params} {c : CacheB} {l : List Nat} (h : RefInv p c l) (base : Nat) (o : Oracle) :
    stepB p c (.cloneProbe base) o = c := by
  obtain ⟨l', r, _⟩ := C14_clone_closed base h
  show ({ c with ub := c.ub || ((c.clone base).dropCache).ub } : CacheB) = c
  rw [dropCache_noUb r, Bool.or_false]

theorem C07_stepB_all {p : Params} {c : CacheB} {l : List Nat} (op : Op) (o : Oracle) (h : RefInv p c l)
    (hk : op.keepsCache = true) :
    ∃ l', RefInv p (stepB p c op o) l' ∧ (stepB p c op o).abs = (step p c.abs op o).cache := by
  cases op with
  | iterate kind calls forget =>
    by_cases hb : kind.borrowing = true
    · rw [show stepB p c (.iterate kind calls forget) o = c from (iter_borrowing h kind hb calls forget).1]
      exact ⟨l, h, (C19_readonly p c.abs (.iterate kind calls forget) o hb).symm⟩
    · obtain rfl : kind = .drain := eq_of_beq (((Bool.or_eq_true ..).mp hk).resolve_left hb)
      obtain ⟨r, habs, _⟩ := iter_drain h calls forget
      have e : (stepB p c (.iterate .drain calls forget) o).abs =
          (step p c.abs (.iterate .drain calls forget) o).cache := habs
      exact ⟨[], ⟨r, e ▸ step_inv _ o h.inv⟩, e⟩
  | cloneProbe base => rw [stepB_cloneProbe h base o]; exact ⟨l, h, rfl⟩
  | _ => exact C07_stepB _ o h rfl

/-- **C07 for every history that keeps its cache**: operations, borrowing iterators and drains with
any call sequence — dropped or leaked — and clone/drop pairs, in any order, with any oracle. -/
theorem C07_history_all (p : Params) (max n : Nat) (ops : List (Op × Oracle)) (hd : ∀ x ∈ ops, x.1.keepsCache = true) :
    ∃ l', RefInv p (runOpsB p (CacheB.new max n) ops) l' ∧
      (runOpsB p (CacheB.new max n) ops).ub = false ∧
      (runOpsB p (CacheB.new max n) ops).abs = runOps p (Cache.withCapacity max n) ops := by
  obtain ⟨l', h, e⟩ := run_refines C07_stepB_all ops hd (new_refinv p max n)
  exact ⟨l', h, h.rep.noUb, by rw [e, new_abs]⟩

end LruMem
