import LruMem.Props.C16c
import LruMem.Props.C16b
/-!
# C16 for whole histories with panics anywhere — "followed by arbitrary further use and drop"

`C16_abort_invW` (Level A) and `C16_ptr_abort` (Level B) speak about *one* panicking call made on a
cache that satisfied the full invariant. The property quantifies over what happens *afterwards* as
well: arbitrary further use — including further panics — and finally the drop. This file closes that
gap at both levels: an abort from a state that only satisfies the weak invariant (e.g. one left behind by
an earlier panic) satisfies the weak invariant again, so whole histories follow by induction.

The side conditions `usableOn` are those of `C16_usable_step`: `try_insert` is not called while
`current_size > max_size` and `mutate` not on an entry whose recorded size is below its value's
estimate (both states can only arise from an earlier panic inside `mutate`; the real code's `usize`
subtraction would overflow there — recorded as a boundary in DESIGN.md §13.6).
-/
namespace LruMem

/-- **Level A, from weak states**: for every cache satisfying the weak invariant, every operation,
callback kind and index, the cache left behind by the unwind satisfies the weak invariant. -/
theorem C16_abort_invW_weak {p : Params} {c : Cache} (hw : InvW c) (op : Op) (o : Oracle) (kind : CbKind) (n : Nat)
    (hu : usableOn p c op) : InvW (stepP p c op o kind n).cache :=
  abort_invW hw op o kind n hu.mutateOk

/-- **Level B, one step from a weak state**, completing or unwinding. -/
theorem C16_ptr_stepW {p : Params} {c : CacheB} {l : List Nat} (op : Op) (o : Oracle) (kind : CbKind) (n : Nat)
    (h : RefW c l) (hd : op.direct = true) (hu : usableOn p c.abs op) :
    ∃ l', RefW (stepPB p c op o kind n) l' ∧ (stepPB p c op o kind n).abs = (stepP p c.abs op o kind n).cache := by
  obtain ⟨l', r, _, e⟩ := C16_ptr_abortW (p := p) op o kind n h hd
  exact ⟨l', ⟨r, by rw [e]; exact C16_abort_invW_weak h.inv op o kind n hu⟩, e⟩

/-- a history: operation, table oracle, and where (if anywhere: `n = 0` means nowhere) it panics -/
abbrev PStep := Op × Oracle × CbKind × Nat

def runP (p : Params) (c : Cache) : List PStep → Cache
  | [] => c
  | (op, o, kind, n) :: rest => runP p (stepP p c op o kind n).cache rest

def runPB (p : Params) (c : CacheB) : List PStep → CacheB
  | [] => c
  | (op, o, kind, n) :: rest => runPB p (stepPB p c op o kind n) rest

/-- Every history of direct operations with panics injected anywhere, from any weak structure. -/
theorem C16_ptr_run {p : Params} (hist : List PStep) : ∀ {c : CacheB} {l : List Nat}, RefW c l →
    (∀ x ∈ hist, x.1.direct = true) →
    (∀ (pre : List PStep) (x : PStep) (post : List PStep), hist = pre ++ x :: post → usableOn p (runP p c.abs pre) x.1) →
    ∃ l', RefW (runPB p c hist) l' ∧ (runPB p c hist).abs = runP p c.abs hist := by
  induction hist with
  | nil => exact fun h _ _ => ⟨_, h, rfl⟩
  | cons x rest ih =>
    intro c l h hd hu
    obtain ⟨l1, h1, e1⟩ := C16_ptr_stepW x.1 x.2.1 x.2.2.1 x.2.2.2 h (hd x (.head _)) (hu [] x rest rfl)
    obtain ⟨l2, h2, e2⟩ := ih h1 (fun y hy => hd y (.tail _ hy)) fun pre y post he =>
      e1 ▸ hu (x :: pre) y post (congrArg (x :: ·) he)
    exact ⟨l2, h2, e2.trans (congrArg (runP p · rest) e1)⟩

/-- **C16 for whole histories.** From `with_capacity(max, n₀)`, any sequence of operations each of
which either completes or unwinds out of any of its callbacks: the pointer structure is well formed
(`Rep`: closed mirrored cycle through exactly the live buckets of the current table), no freed,
vacated or moved-out memory was ever touched (`ub = false`), and its abstraction — the Level A run —
satisfies the weak invariant (one entry per key, `current_size` = sum of the recorded sizes). -/
theorem C16_ptr_history (p : Params) (max n₀ : Nat) (hist : List PStep)
    (hd : ∀ x ∈ hist, x.1.direct = true)
    (hu : ∀ (pre : List PStep) (x : PStep) (post : List PStep), hist = pre ++ x :: post →
      usableOn p (runP p (Cache.withCapacity max n₀) pre) x.1) :
    ∃ l', Rep (runPB p (CacheB.new max n₀) hist) l' ∧ (runPB p (CacheB.new max n₀) hist).ub = false ∧
      (runPB p (CacheB.new max n₀) hist).abs = runP p (Cache.withCapacity max n₀) hist ∧
      InvW (runP p (Cache.withCapacity max n₀) hist) := by
  obtain ⟨l', h, e⟩ := C16_ptr_run hist (new_refinv p max n₀).toW hd (by rw [new_abs]; exact hu)
  rw [new_abs] at e
  exact ⟨l', h.rep, h.rep.noUb, e, by rw [← e]; exact h.inv⟩

/-- … and dropping the cache at the end reads every remaining entry from a bucket that still owns it
(no double drop, no use after free in `Drop for LruCache`). -/
theorem C16_ptr_history_drop (p : Params) (max n₀ : Nat) (hist : List PStep)
    (hd : ∀ x ∈ hist, x.1.direct = true)
    (hu : ∀ (pre : List PStep) (x : PStep) (post : List PStep), hist = pre ++ x :: post →
      usableOn p (runP p (Cache.withCapacity max n₀) pre) x.1) :
    ((runPB p (CacheB.new max n₀) hist).dropCache).ub = false := by
  obtain ⟨l', r, _, _, _⟩ := C16_ptr_history p max n₀ hist hd hu
  exact dropCache_noUb r

/-! non-vacuity: grow-with-panic (guard fires), reuse, a `retain` whose 2nd predicate call panics,
a second growth with a panicking re-hash, further inserts. -/
private def q2 : Params := ⟨64, 16, 18446744073709551615⟩
private def hist2 : List PStep :=
  [(.insert ⟨1, 0, 1⟩ ⟨0, 2⟩, {}, .hash, 0), (.insert ⟨2, 0, 3⟩ ⟨0, 4⟩, {}, .hash, 0), (.insert ⟨3, 0, 5⟩ ⟨0, 6⟩, {}, .hash, 0),
   (.insert ⟨4, 0, 7⟩ ⟨0, 8⟩, {}, .hash, 3),           -- growth, 2nd re-hash panics: guard empties the cache
   (.insert ⟨5, 0, 9⟩ ⟨0, 10⟩, {}, .hash, 0), (.insert ⟨6, 0, 11⟩ ⟨0, 12⟩, {}, .hash, 0),
   (.retain (fun i _ _ => i != 0), {}, .pred, 2),         -- 2nd predicate call panics after one removal
   (.reserve 40, {}, .hash, 1),                           -- 1st re-hash of an explicit rebuild panics
   (.insert ⟨7, 0, 13⟩ ⟨0, 14⟩, {}, .hash, 0), (.get 7, {}, .hash, 1)]
example : (∀ x ∈ hist2, x.1.direct = true) := by decide +kernel
example : ids (runP q2 (Cache.withCapacity 1000 0) hist2).entries = [7] ∧
    (runPB q2 (CacheB.new 1000 0) hist2).ub = false ∧
    ((runPB q2 (CacheB.new 1000 0) hist2).order.map fun a => ((runPB q2 (CacheB.new 1000 0) hist2).ent a).key.id) = [7] := by
  decide +kernel

end LruMem
