import LruMem.Props.C14c
/-!
# C06 / C14 / C01 — programs over several caches

The harness's operation language works on a pool of caches: `new`, an operation on one of them,
`clone` of one into a new one, `clone_from` of one into another, `drop`. This file is that language
as a model — a pool is the list of the live caches (positions are the handles a program uses; `drop`
removes a position) — and lifts the single-cache theorems of C01, C14 and C06 to it.

A request naming a position that does not exist is a no-op, and `clone_from` of a cache into itself
is not a program (Rust's borrow rules reject `a.clone_from(&a)`). The composition itself (which
request reads and writes which cache) is what the driver and the harness do with their arrays of
caches; the per-cache functions used here (`step`, `clone`, `cloneFrom`, `dropCache`) are the ones
the driver runs.
-/
namespace LruMem

inductive POp
  | new (max n : Nat)
  | op (i : Nat) (op : Op) (o : Oracle)
  | clone (i : Nat) (base : Nat)
  | cloneFrom (src dst : Nat) (base : Nat)
  | drop (i : Nat)

/-- What one request does: the new pool, the objects it moves or creates into the pool, and the
objects that are dropped or handed back to the caller. -/
structure PRes where
  pool : List Cache
  moved : List Nat := []
  gone : List Nat := []

def poolStep (p : Params) (P : List Cache) : POp → PRes
  | .new max n => { pool := P ++ [Cache.withCapacity max n] }
  | .op i op o =>
    match P[i]? with
    | some c =>
      let r := step p c op o
      { pool := P.set i r.cache, moved := movedIn p c op, gone := droppedToks r.evs ++ r.out.owned }
    | none => { pool := P }
  | .clone i base =>
    match P[i]? with
    | some c => { pool := P ++ [(clone c base).1], moved := toks (clone c base).1.entries }
    | none => { pool := P }
  | .cloneFrom src dst base =>
    match P[src]?, P[dst]? with
    | some c, some d =>
      if src = dst then { pool := P }
      else { pool := P.set dst (cloneFrom d c base).1, moved := toks (cloneFrom d c base).1.entries,
             gone := droppedToks (cloneFrom d c base).2.1 }
    | _, _ => { pool := P }
  | .drop i =>
    match P[i]? with
    | some c => { pool := P.eraseIdx i, gone := droppedToks (dropCache c) }
    | none => { pool := P }

/-- The requests of a C06 program: operations neither consume the cache nor leak an iterator. -/
def POp.plain : POp → Bool
  | .op _ q _ => Op.plain q
  | _ => true

/-- Every object held by some cache of the pool. -/
def poolToks (P : List Cache) : List Nat := P.flatMap fun c => toks c.entries

structure PLedger where
  moved : List Nat
  gone : List Nat

def runPool (p : Params) : List Cache → List POp → List Cache × PLedger
  | P, [] => (P, ⟨[], []⟩)
  | P, x :: rest =>
    let r := poolStep p P x
    let y := runPool p r.pool rest
    (y.1, ⟨r.moved ++ y.2.moved, r.gone ++ y.2.gone⟩)

/-- Dropping every cache that is still alive at the end of the program. -/
def dropPool (P : List Cache) : List Nat := P.flatMap fun c => droppedToks (dropCache c)

theorem all_snoc {α} {Q : α → Prop} {l : List α} {a : α} (h : ∀ x ∈ l, Q x) (ha : Q a) : ∀ x ∈ l ++ [a], Q x :=
  List.forall_mem_append.mpr ⟨h, List.forall_mem_singleton.mpr ha⟩

theorem all_set {α} {Q : α → Prop} {l : List α} (i : Nat) {a : α} (h : ∀ x ∈ l, Q x) (ha : Q a) :
    ∀ x ∈ l.set i a, Q x :=
  fun x hx => (List.mem_or_eq_of_mem_set hx).elim (h x) (· ▸ ha)

theorem poolToks_append (P Q : List Cache) : poolToks (P ++ Q) = poolToks P ++ poolToks Q :=
  List.flatMap_append

theorem poolToks_snoc (P : List Cache) (c : Cache) : poolToks (P ++ [c]) = poolToks P ++ toks c.entries := by
  rw [poolToks_append]; exact congrArg _ (List.append_nil _)

theorem poolToks_cons (c : Cache) (P : List Cache) : poolToks (c :: P) = toks c.entries ++ poolToks P := rfl

theorem count_poolToks_erase (t : Nat) (P : List Cache) (i : Nat) (c : Cache) (h : P[i]? = some c) :
    List.count t (poolToks (P.eraseIdx i)) + List.count t (toks c.entries) = List.count t (poolToks P) := by
  induction P generalizing i with
  | nil => cases h
  | cons a P ih =>
    cases i with
    | zero => cases h; rw [List.eraseIdx_cons_zero, poolToks_cons, List.count_append, Nat.add_comm]
    | succ i =>
      rw [List.eraseIdx_cons_succ, poolToks_cons, poolToks_cons, List.count_append, List.count_append, ← ih i h,
        Nat.add_assoc]

theorem count_poolToks_set (t : Nat) (P : List Cache) (i : Nat) (c c' : Cache) (h : P[i]? = some c) {m g : Nat}
    (hc : List.count t (toks c.entries) + m = List.count t (toks c'.entries) + g) :
    List.count t (poolToks P) + m = List.count t (poolToks (P.set i c')) + g := by
  have h1 := count_poolToks_erase t P i c h
  have h2 := count_poolToks_erase t (P.set i c') i c' (List.getElem?_set_self (List.getElem?_eq_some_iff.mp h).1)
  rw [List.eraseIdx_set_eq] at h2
  rw [← h1, ← h2, Nat.add_assoc, hc, Nat.add_assoc]

theorem dropPool_eq (P : List Cache) : dropPool P = poolToks P := by
  simp only [dropPool, poolToks, C06_drop]

theorem pool_step_inv {p : Params} {P : List Cache} (x : POp) (h : ∀ c ∈ P, InvA p c) :
    ∀ c ∈ (poolStep p P x).pool, InvA p c := by
  -- the branches of `poolStep` in the order of its definition; those that leave the pool as it was come last
  fun_cases poolStep p P x with
  | case1 max n => exact all_snoc h (new_inv p max n)
  | case2 i op o c hc => exact all_set i h (step_inv op o (h c (List.mem_of_getElem? hc)))
  | case4 i base c hc => exact all_snoc h (clone_inv base (h c (List.mem_of_getElem? hc))).1
  | case7 src dst base c d _ hc => exact all_set dst h (clone_inv base (h c (List.mem_of_getElem? hc))).1
  | case9 => exact fun c hc => h c (List.mem_of_mem_eraseIdx hc)
  | case3 | case5 | case6 | case8 | case10 => exact h

/-- **Every cache of every pool a program can build satisfies the invariant** (programs start from
the empty pool; every request, any oracle choices). -/
theorem C01_pool_inv {p : Params} (prog : List POp) :
    ∀ (P : List Cache), (∀ c ∈ P, InvA p c) → ∀ c ∈ (runPool p P prog).1, InvA p c := by
  induction prog with
  | nil => intro P h; exact h
  | cons x prog ih => intro P h; exact ih _ (pool_step_inv x h)

theorem C01_pool_bound {p : Params} (prog : List POp) :
    ∀ c ∈ (runPool p [] prog).1, c.cur ≤ c.max ∧ c.cur = sumSizes c.entries := by
  intro c hc
  have := C01_pool_inv (p := p) prog [] (fun _ h => nomatch h) c hc
  exact ⟨this.bound, this.cur⟩

/-- **An operation on one cache leaves every other cache of the pool the same value** — whatever the
operation, and in particular when one of the two is a clone of the other. -/
theorem C14_pool_independent (p : Params) (P : List Cache) (i j : Nat) (op : Op) (o : Oracle) (hij : i ≠ j) :
    (poolStep p P (.op i op o)).pool[j]? = P[j]? := by
  dsimp only [poolStep]; split
  · exact List.getElem?_set_ne hij
  · rfl

/-- `clone` and `clone_from` read their source: it is the same value afterwards, and so is every
cache other than the destination. -/
theorem C14_pool_clone_reads (p : Params) (P : List Cache) (i j : Nat) (base : Nat) (hj : j < P.length) :
    (poolStep p P (.clone i base)).pool[j]? = P[j]? := by
  dsimp only [poolStep]; split
  · exact List.getElem?_append_left hj
  · rfl

theorem C14_pool_cloneFrom_reads (p : Params) (P : List Cache) (src dst j : Nat) (base : Nat) (hj : j ≠ dst) :
    (poolStep p P (.cloneFrom src dst base)).pool[j]? = P[j]? := by
  dsimp only [poolStep]; split
  · split
    · rfl
    · exact List.getElem?_set_ne (Ne.symm hj)
  · rfl

theorem pool_step_conserve {p : Params} {P : List Cache} (x : POp) (h : ∀ c ∈ P, InvA p c)
    (hp : x.plain = true) (t : Nat) :
    List.count t (poolToks P) + List.count t (poolStep p P x).moved =
      List.count t (poolToks (poolStep p P x).pool) + List.count t (poolStep p P x).gone := by
  fun_cases poolStep p P x with
  | case1 max n => exact congrArg (List.count t) ((poolToks_snoc P _).trans (List.append_nil _)).symm
  | case2 i op o c hc =>
    obtain ⟨hk, hl⟩ := Op.plain_spec (show Op.plain op = true from hp)
    have h1 := C06_step_conserve (p := p) op o (h c (List.mem_of_getElem? hc)).weak hk hl t
    exact count_poolToks_set t P i c _ hc (by rw [List.count_append, ← Nat.add_assoc]; exact h1)
  | case4 => simp only [poolToks_snoc, List.count_append, List.count_nil, Nat.add_zero]
  | case7 src dst base c d hd =>
    simp only [C14_clone_from_drops_old]
    exact count_poolToks_set t P dst d _ hd (Nat.add_comm _ _)
  | case9 i c hc =>
    simp only [C06_drop, List.count_nil, Nat.add_zero]
    exact (count_poolToks_erase t P i c hc).symm
  | case3 | case5 | case6 | case8 | case10 => rfl

theorem ledger_trans {a a' m g m' g' d : Nat} (h1 : a + m = a' + g) (h2 : a' + m' = g' + d) :
    a + (m + m') = g + g' + d := by
  rw [← Nat.add_assoc, h1, Nat.add_right_comm, h2, Nat.add_right_comm, Nat.add_comm g']

/-- A whole program over several caches, then every cache still alive is dropped: for every object,
the number of times it was moved or cloned into the pool equals the number of times it was dropped or
handed back. -/
theorem C06_pool_program {p : Params} (prog : List POp) :
    ∀ (P : List Cache), (∀ c ∈ P, InvA p c) → (∀ x ∈ prog, x.plain = true) → ∀ t,
    List.count t (poolToks P) + List.count t (runPool p P prog).2.moved =
      List.count t (runPool p P prog).2.gone + List.count t (dropPool (runPool p P prog).1) := by
  induction prog with
  | nil => intro P _ _ t; rw [dropPool_eq]; exact Nat.add_comm _ _
  | cons x prog ih =>
    intro P h hp t
    have h1 := pool_step_conserve x h (hp x (List.mem_cons_self ..)) t
    have h2 := ih (poolStep p P x).pool (pool_step_inv x h) (fun y hy => hp y (List.mem_cons_of_mem _ hy)) t
    show _ + List.count t (_ ++ _) = List.count t (_ ++ _) + _
    rw [List.count_append, List.count_append]
    exact ledger_trans h1 h2

theorem pool_exactly_once {p : Params} (prog : List POp) (P : List Cache) (h : ∀ c ∈ P, InvA p c)
    (hp : ∀ x ∈ prog, x.plain = true) (hnd : (poolToks P ++ (runPool p P prog).2.moved).Nodup) :
    ((runPool p P prog).2.gone ++ dropPool (runPool p P prog).1).Nodup ∧
    ((runPool p P prog).2.gone ++ dropPool (runPool p P prog).1).Perm (poolToks P ++ (runPool p P prog).2.moved) := by
  have hperm := List.perm_iff_count.mpr fun t =>
    (List.count_append ..).trans ((C06_pool_program prog P h hp t).symm.trans (List.count_append ..).symm)
  exact ⟨hperm.symm.nodup_iff.mp hnd, hperm⟩

/-- **Exactly once, across caches.** If the objects moved or cloned into the pool over the whole
program are pairwise distinct (the caller never hands the same object over twice, `Clone` makes new
objects), then what is dropped or handed back — during the program, by `clone_from` replacing a
destination, by `drop`, and by the final drop of every cache — is pairwise distinct and is exactly
those objects: nothing twice (not even through two caches), nothing forgotten. -/
theorem C06_pool_exactly_once {p : Params} (prog : List POp) (hp : ∀ x ∈ prog, x.plain = true)
    (hnd : (runPool p [] prog).2.moved.Nodup) :
    ((runPool p [] prog).2.gone ++ dropPool (runPool p [] prog).1).Nodup ∧
    ((runPool p [] prog).2.gone ++ dropPool (runPool p [] prog).1).Perm (runPool p [] prog).2.moved :=
  pool_exactly_once prog [] (fun _ h => nomatch h) hp hnd

/-- Under the same hypothesis no object is ever in two caches of the pool, or twice in one: what the
pool holds at the end is duplicate-free. -/
theorem C14_pool_disjoint {p : Params} (prog : List POp) (hp : ∀ x ∈ prog, x.plain = true)
    (hnd : (runPool p [] prog).2.moved.Nodup) : (poolToks (runPool p [] prog).1).Nodup := by
  have h := (C06_pool_exactly_once prog hp hnd).1
  rw [dropPool_eq] at h
  exact (List.nodup_append.mp h).2.1

/-! ### non-vacuity: two caches, a clone, a `clone_from` over a non-empty destination, drops -/
private def p0 : Params := ⟨64, 16, 18446744073709551615⟩
private def prog : List POp :=
  [.new 1000 0, .op 0 (.insert ⟨1, 0, 1⟩ ⟨1, 2⟩) {}, .op 0 (.insert ⟨2, 0, 3⟩ ⟨2, 4⟩) {},
   .clone 0 100, .op 1 (.remove 1) {}, .new 300 4, .op 2 (.insert ⟨9, 0, 5⟩ ⟨0, 6⟩) {},
   .cloneFrom 0 2 200, .op 0 (.insert ⟨1, 0, 7⟩ ⟨5, 8⟩) {}, .drop 1]
example : ∀ x ∈ prog, x.plain = true := by decide +kernel
example : (runPool p0 [] prog).2.moved = [1, 2, 3, 4, 100, 101, 102, 103, 5, 6, 200, 201, 202, 203, 7, 8] := by decide +kernel
example : ((runPool p0 [] prog).1.map fun c => ids c.entries) = [[2, 1], [1, 2]] := by decide +kernel
example : ((runPool p0 [] prog).2.gone ++ dropPool (runPool p0 [] prog).1).Perm
    [1, 2, 3, 4, 100, 101, 102, 103, 5, 6, 200, 201, 202, 203, 7, 8] := by decide +kernel

end LruMem
