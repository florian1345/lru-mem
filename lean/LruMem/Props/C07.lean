import LruMem.Proofs.Refine2
/-!
# C07 — the list/table structure stays coherent and memory-safe across all operations

Level B (`LruMem/Model/Ptr.lean`): addressed buckets with `prev`/`next` links, the seal, the table
listing the full buckets, and `EntryPtr` primitives that flag an access to a freed bucket, a
moved-out entry or the null pointer (`ub`). `Rep c l` says that `c` is a well-formed representation
of the LRU→MRU address list `l`; `RefInv` adds the Level A invariant of the abstraction.

Partial (DESIGN §6 C07): what is proved is coherence and absence of invalid accesses *in the model*;
the machine level (actual reads of freed bytes, aliasing-model UB, hashbrown's own unsafe code) is
sampled by the hook walk on the real heap and by Miri/valgrind runs, not proved. This file has the
structural facts and the reallocation loop; the operations are in `C07b.lean`, iterators and `clone` in `C07c.lean`.
-/
namespace LruMem

/-- Traversing from least- to most-recently-used and in reverse yields mirror-image sequences of
exactly `len` nodes. -/
theorem C07_mirror {c : CacheB} {l : List Nat} (r : Rep c l) :
    CacheB.walkNext c.links c.sl c.table.length (c.links c.sl).next = c.order.reverse ∧
    c.order.length = c.table.length ∧ c.order = l :=
  ⟨r.mirror.1, r.mirror.2, r.order⟩

/-- Each traversed node is the very bucket a table lookup of its key finds. -/
theorem C07_find_agrees {p : Params} {c : CacheB} {l : List Nat} (h : RefInv p c l) (a : Nat) (ha : a ∈ l) :
    c.find (c.ent a).key.id = some a :=
  find_agreesW h.toW a ha

/-- A freshly created cache is well-formed. -/
theorem C07_new (p : Params) (max n : Nat) : RefInv p (CacheB.new max n) [] := new_refinv p max n

/-- The reallocation loop (`move_to_table`, reached by automatic growth, `reserve`, `try_reserve`,
`shrink_to`): afterwards every link leads into the *new* table or to the seal — every listed node
is a fresh bucket (address `≥` the old allocation counter), the old buckets are dead, and no
access during the loop touched dead memory (`ub = false` is part of `Rep`). Order and entries are
unchanged. -/
theorem C07_reallocate {c : CacheB} {l : List Nat} (n : Nat) (r : Rep c l) :
    ∃ l', Rep (c.reallocate n) l' ∧ l'.map (c.reallocate n).ent = l.map c.ent ∧ (∀ a ∈ l', c.fresh ≤ a) ∧
      (∀ a, a < c.fresh → a ≠ c.sl → (c.reallocate n).st a = .dead) := by
  obtain ⟨l', r', h1, _, _, hsl, h6⟩ := reallocate_rep n r
  refine ⟨l', r', h1, h6, fun a ha hne => ?_⟩
  show (if a < c.fresh ∧ a ≠ (c.moveAll c.table).sl then SlotSt.dead else _) = _
  exact if_pos ⟨ha, fun e => hne (e.trans hsl)⟩

/-- None of the operations ever sets the `ub` flag: every `EntryPtr` dereference hits the seal or a full
bucket of the current table (`ub = false` is part of `Rep`). -/
theorem C07_no_ub {p : Params} {c : CacheB} {l : List Nat} (o : Oracle) (h : RefInv p c l) (k : Key) (v : Val) (id m : Nat) :
    (c.insert p k v o).ub = false ∧ (c.tryInsert p k v o).ub = false ∧ (c.getEntry id).ub = false ∧
    c.getLru.ub = false ∧ (c.removeEntry id o).ub = false ∧ (c.setMaxSize m o).ub = false ∧
    (c.reserve p m o).ub = false ∧ (c.shrinkTo p m o).ub = false := by
  have nu (op : Op) (hd : op.direct = true) : (stepB p c op o).ub = false :=
    (stepB_refinesW op o h.toW hd).elim fun _ x => x.1.noUb
  exact ⟨nu (.insert k v) rfl, nu (.tryInsert k v) rfl, nu (.getEntry id) rfl, nu .getLru rfl, nu (.removeEntry id) rfl,
    nu (.setMaxSize m) rfl, nu (.reserve m) rfl, nu (.shrinkTo m) rfl⟩

/-- The primitives the operations are composed of: promotion, removal (the vacated bucket keeps
readable links — what `retain` reads), insertion. (`partial` in the name notwithstanding, `mutate`,
`retain`, `clear` and the iterators are assembled from them in `C07b.lean` / `C07c.lean`.) -/
theorem C07_primitives_partial {c : CacheB} {l1 l2 : List Nat} {x : Nat} (t : Nat) (e : Entry) (reuse : Bool)
    (r : Rep c (l1 ++ x :: l2)) :
    Rep (c.touchPtr x) (l1 ++ l2 ++ [x]) ∧ Rep (c.removeAt x t) (l1 ++ l2) ∧
    (c.removeAt x t).st x = .vacant ∧ (c.removeAt x t).links x = c.links x ∧
    Rep (c.insertFresh e reuse) ((l1 ++ x :: l2) ++ [c.fresh]) := by
  obtain ⟨rr, hlinks⟩ := removeAt_rep t r
  exact ⟨touchPtr_rep r, rr, (removeAt_st c x t x).trans (if_pos rfl), hlinks, insertFresh_rep e reuse r⟩

/-! ### non-vacuity: a concrete Level B history with growth (0 → 4 → 8 buckets) and a promotion -/
private def p0 : Params := ⟨64, 16, 18446744073709551615⟩
private def cb : CacheB :=
  (((((CacheB.new 1000 0).insert p0 ⟨1, 0, 1⟩ ⟨0, 2⟩ {}).insert p0 ⟨2, 0, 3⟩ ⟨0, 4⟩ {}).insert p0 ⟨3, 0, 5⟩ ⟨0, 6⟩ {}).insert
    p0 ⟨4, 0, 7⟩ ⟨0, 8⟩ {}).getEntry 2
example : cb.order.map (fun a => (cb.ent a).key.id) = [1, 3, 4, 2] ∧ cb.ub = false ∧ cb.shape.buckets = 8 := by decide +kernel

end LruMem
