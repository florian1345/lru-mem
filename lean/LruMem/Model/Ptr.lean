import LruMem.Model.Step
/-!
# Level B: the pointer model

The cache as `lib.rs`/`entry.rs`/`iter.rs` build it: addressed slots holding `prev`, `next` and the
entry, a heap-allocated seal closing the list into a cycle, a table that lists the full slots, and raw
`EntryPtr` primitives. Every dereference is checked against the state of the slot it touches:

* `dead`   — never allocated, or part of a table allocation that has been freed, or a vacated bucket
             that a later insertion may have overwritten;
* `full`   — a bucket of the *current* table that holds an entry;
* `vacant` — a bucket of the current table whose entry was removed: its bytes (in particular `prev`
             and `next`) are still there until the next insertion or reallocation — this is what
             `retain` reads at `lib.rs` `tail = entry.prev` and what `Drain` relies on;
* `sealed` — the boxed dummy node (the seal).

`has a` says whether the key/value stored at `a` are still owned there (not yet moved out by
`ptr::read`, `remove`, …). An invalid access sets the sticky flag `ub`.

Addresses are abstract: every insertion and every bucket of a new table takes a fresh address (the
comparison with the real heap, through the hook, is up to renaming). Address 0 is the null pointer.
-/
namespace LruMem

inductive SlotSt | dead | full | vacant | sealed
deriving Repr, DecidableEq, Inhabited

structure Links where
  prev : Nat
  next : Nat
deriving Repr, DecidableEq, Inhabited

structure CacheB where
  links : Nat → Links
  st : Nat → SlotSt
  ent : Nat → Entry
  /-- key and value at this address are initialised and owned by the slot -/
  has : Nat → Bool
  /-- address of the seal -/
  sl : Nat
  /-- addresses of the full buckets, in table (bucket) order — an arbitrary order -/
  table : List Nat
  cur : Nat
  max : Nat
  shape : Shape
  /-- allocation counter: every address `≥ fresh` is unused -/
  fresh : Nat
  /-- some access so far was to freed, moved-out or null memory -/
  ub : Bool

namespace CacheB

def check (c : CacheB) (ok : Bool) : CacheB := { c with ub := c.ub || !ok }

/-- `EntryPtr::get`: the pointee's `Copy` fields may be read -/
def readable (c : CacheB) (a : Nat) : Bool := c.st a != .dead
/-- `EntryPtr::get_mut` on a node that is part of the structure -/
def writable (c : CacheB) (a : Nat) : Bool := c.st a == .full || c.st a == .sealed
/-- key / value may be read (or moved out) -/
def owns (c : CacheB) (a : Nat) : Bool := c.st a != .dead && c.has a

def setNext (c : CacheB) (a v : Nat) : CacheB :=
  { c with links := fun x => if x = a then { c.links x with next := v } else c.links x,
           ub := c.ub || !c.writable a }

def setPrev (c : CacheB) (a v : Nat) : CacheB :=
  { c with links := fun x => if x = a then { c.links x with prev := v } else c.links x,
           ub := c.ub || !c.writable a }

/-- `EntryPtr::unhinge` (`entry.rs:222-228`), also the link part of `Entry::unhinge`. -/
def unhinge (c : CacheB) (x : Nat) : CacheB :=
  let c := c.check (c.readable x)
  setPrev (setNext c (c.links x).prev (c.links x).next) (c.links x).next (c.links x).prev

/-- `set_head`: `entry.insert(self.sl, self.sl.get().next)` (`entry.rs:230-239`). The node's own
links are written through `get_mut`, so it has to be a full slot. -/
def setHead (c : CacheB) (x : Nat) : CacheB :=
  let c := c.check (c.readable c.sl && c.st x == .full)
  let n := (c.links c.sl).next
  let c1 := setNext c c.sl x
  let c2 := setPrev c1 n x
  let c3 := { c2 with links := fun y => if y = x then { c2.links y with next := n } else c2.links y }
  { c3 with links := fun y => if y = x then { c3.links y with prev := c.sl } else c3.links y }

/-- `touch_ptr` -/
def touchPtr (c : CacheB) (x : Nat) : CacheB := setHead (unhinge c x) x

/-- `RawTable::find` with `equivalent_key`: the full bucket whose key has this id. -/
def find (c : CacheB) (id : Nat) : Option Nat := c.table.find? fun a => (c.ent a).key.id == id

/-- `remove_from_table` + `remove_metadata`: the bucket becomes vacant, the entry is moved out (by
value), its neighbours are relinked from the moved-out copy's links, the total is reduced by the
recorded size. `tomb` = how many of the operation's remaining removals leave a tombstone (the first
`tomb` of them do; only the count matters for the accounting). -/
def removeAt (c : CacheB) (x : Nat) (tomb : Nat) : CacheB :=
  let c := c.check (c.owns x && c.st x == .full)
  let c1 := { c with st := fun y => if y = x then .vacant else c.st y,
                     has := fun y => if y = x then false else c.has y,
                     table := c.table.erase x,
                     shape := c.shape.remove 1 tomb }
  -- `Entry::unhinge(self)`: reads the copy's links, writes the neighbours
  let c2 := setPrev (setNext c1 (c.links x).prev (c.links x).next) (c.links x).next (c.links x).prev
  { c2 with cur := c2.cur - (c.ent x).size }

/-- `try_insert_no_grow` succeeded at a fresh bucket: write the entry with `prev = seal`,
`next = seal.next` (`Entry::new`), then `set_head`. Any bucket vacated earlier may have been the one
that was reused: vacant buckets are dead from now on. -/
def insertFresh (c : CacheB) (e : Entry) (reuse : Bool) : CacheB :=
  let a := c.fresh
  let c := c.check (c.readable c.sl)
  let c1 := { c with st := fun y => if y = a then .full else if c.st y = SlotSt.vacant then .dead else c.st y,
                     has := fun y => if y = a then true else c.has y,
                     ent := fun y => if y = a then e else c.ent y,
                     links := fun y => if y = a then ⟨c.sl, (c.links c.sl).next⟩ else c.links y,
                     table := c.table ++ [a],
                     shape := c.shape.inserted reuse,
                     fresh := a + 1 }
  setHead { c1 with cur := c1.cur + e.size } a

/-- One iteration of the move loop of `move_to_table`: the entry at `x` (old table) lands in a fresh
bucket `x'` of the new table; both neighbours are repaired at their *current* locations. -/
def moveOne (c : CacheB) (x : Nat) : CacheB :=
  let x' := c.fresh
  let c := c.check (c.owns x)
  let p := (c.links x).prev
  let n := (c.links x).next
  let c1 := { c with st := fun y => if y = x' then .full else c.st y,
                     has := fun y => if y = x' then true else if y = x then false else c.has y,
                     ent := fun y => if y = x' then c.ent x else c.ent y,
                     links := fun y => if y = x' then c.links x else c.links y,
                     fresh := x' + 1 }
  -- `prev_entry.get_mut().next = entry_ptr; next_entry.get_mut().prev = entry_ptr;`
  -- the neighbours may still sit in the old table (readable as long as the old allocation lives)
  let c2 := { c1 with links := fun y => if y = p then { c1.links y with next := x' } else c1.links y,
                      ub := c1.ub || !c1.readable p }
  { c2 with links := fun y => if y = n then { c2.links y with prev := x' } else c2.links y,
            ub := c2.ub || !c2.readable n }

def moveAll : CacheB → List Nat → CacheB
  | c, [] => c
  | c, x :: xs => moveAll (moveOne c x) xs

/-- `move_to_table` into a fresh table for request `n`: every entry moved (table order), then the old
allocation is freed: the old buckets, full or vacant, are dead. -/
def reallocate (c : CacheB) (n : Nat) : CacheB :=
  let old := c.table
  let start := c.fresh
  let c1 := moveAll c old
  { c1 with st := fun y => if y < start ∧ y ≠ c1.sl then .dead else c1.st y,
            table := (List.range old.length).map (· + start),
            shape := c.shape.rebuilt n }

/-- `insert_unchecked` -/
def insertUnchecked (c : CacheB) (e : Entry) (o : Oracle) : CacheB :=
  if c.shape.canInsert o.reuse then insertFresh c e o.reuse
  else
    let c1 := reallocate c (Nat.max (2 * c.shape.capacity) 1)
    insertFresh c1 e false

/-- `lru_ptr` -/
def lruPtr (c : CacheB) : Option Nat :=
  let p := (c.links c.sl).prev
  if p = c.sl then none else some p

def mruPtr (c : CacheB) : Option Nat :=
  let p := (c.links c.sl).next
  if p = c.sl then none else some p

/-- `eject_to_target`, with fuel for the loop (`items + 1` iterations always suffice). -/
def ejectTo : Nat → CacheB → Nat → Nat → CacheB
  | 0, c, _, _ => c
  | fuel + 1, c, target, tomb =>
    if c.cur > target then
      match c.lruPtr with
      | some x => ejectTo fuel (removeAt c x tomb) target (tomb - 1)
      | none => c
    else c

/-- `k` complete iterations of the `eject_to_target` loop -/
def evictN : Nat → CacheB → Nat → CacheB
  | 0, c, _ => c
  | k + 1, c, tomb =>
    match c.lruPtr with
    | some x => evictN k (removeAt c x tomb) (tomb - 1)
    | none => c

/-- the walk from the seal along `prev`: LRU → MRU -/
def walkPrev (links : Nat → Links) (sealA : Nat) : Nat → Nat → List Nat
  | 0, _ => []
  | fuel + 1, a => if a = sealA then [] else a :: walkPrev links sealA fuel (links a).prev

def walkNext (links : Nat → Links) (sealA : Nat) : Nat → Nat → List Nat
  | 0, _ => []
  | fuel + 1, a => if a = sealA then [] else a :: walkNext links sealA fuel (links a).next

/-- addresses in LRU→MRU order -/
def order (c : CacheB) : List Nat := walkPrev c.links c.sl c.table.length (c.links c.sl).prev

/-- The abstraction to Level A. -/
def abs (c : CacheB) : Cache :=
  { entries := c.order.map c.ent, cur := c.cur, max := c.max, shape := c.shape }

/-- `LruCache::with_capacity`: the seal is the only allocation (address 1). -/
def new (max n : Nat) : CacheB :=
  { links := fun _ => ⟨1, 1⟩, st := fun a => if a = 1 then .sealed else .dead, ent := fun _ => default,
    has := fun _ => false, sl := 1, table := [], cur := 0, max := max, shape := Shape.fresh n,
    fresh := 2, ub := false }

/-! ## public operations -/

/-- `self.table.remove_entry(hash, equivalent_key(key)).map(|e| remove_metadata(e))` -/
def dedupe (c : CacheB) (id : Nat) (tomb : Nat) : CacheB :=
  match c.find id with
  | some x => removeAt c x tomb
  | none => c

def insert (p : Params) (c : CacheB) (k : Key) (v : Val) (o : Oracle) : CacheB :=
  let s := entrySize p k v
  if s > c.max then c
  else
    let c1 := c.dedupe k.id o.tombs
    let c2 := ejectTo (c1.table.length + 1) c1 (c.max - s) (if (c.find k.id).isSome then o.tombs - 1 else o.tombs)
    insertUnchecked c2 ⟨k, v, s⟩ o

def tryInsert (p : Params) (c : CacheB) (k : Key) (v : Val) (o : Oracle) : CacheB :=
  let s := entrySize p k v
  if s > c.max then c
  else if s > c.max - c.cur then c
  else if (c.find k.id).isSome then c
  else insertUnchecked c ⟨k, v, s⟩ o

def getEntry (c : CacheB) (id : Nat) : CacheB :=
  match c.find id with
  | some x => touchPtr c x
  | none => c

def removeEntry (c : CacheB) (id : Nat) (o : Oracle) : CacheB :=
  match c.find id with
  | some x => removeAt c x o.tombs
  | none => c

def removeLru (c : CacheB) (o : Oracle) : CacheB :=
  match c.lruPtr with
  | some x =>
    -- `remove_ptr`: looks the key up again
    match c.find (c.ent x).key.id with
    | some y => removeAt (c.check (c.owns x)) y o.tombs
    | none => c.check false
  | none => c

def removeMru (c : CacheB) (o : Oracle) : CacheB :=
  match c.mruPtr with
  | some x =>
    match c.find (c.ent x).key.id with
    | some y => removeAt (c.check (c.owns x)) y o.tombs
    | none => c.check false
  | none => c

def getLru (c : CacheB) : CacheB :=
  match c.lruPtr with
  | some x => touchPtr c x
  | none => c

def setMaxSize (c : CacheB) (m : Nat) (o : Oracle) : CacheB :=
  { ejectTo (c.table.length + 1) c m o.tombs with max := m }

def reserve (p : Params) (c : CacheB) (a : Nat) (o : Oracle) : CacheB :=
  let n := c.shape.items + a
  if n > p.usizeMax then c
  else if c.shape.capacity < n then
    if tableOk p n && o.allocOk then reallocate c n else c
  else c

def shrinkTo (p : Params) (c : CacheB) (m : Nat) (o : Oracle) : CacheB :=
  let n := Nat.max c.shape.items m
  if c.shape.capacity > n then
    if tableOk p n && o.allocOk then
      if bucketsFor n < c.shape.buckets ∧ freshCap n ≤ c.shape.capacity then reallocate c n else c
    else c
  else c

def mutate (p : Params) (c : CacheB) (id : Nat) (f : Val → Val × Nat) (o : Oracle) : CacheB :=
  match c.find id with
  | none => c
  | some x =>
    let e := c.ent x
    let c := c.check (c.owns x)
    let oldSz := valMemSize p e.val
    let v' := (f e.val).1
    let newSz := valMemSize p v'
    -- the closure wrote the value in place
    let c := { c with ent := fun y => if y = x then { c.ent y with val := v' } else c.ent y }
    if newSz > oldSz then
      let diff := newSz - oldSz
      let newEntry := e.size + diff
      if newEntry > c.max then
        match c.find id with
        | some y => removeAt c y o.tombs
        | none => c.check false
      else
        let c := { c with ent := fun y => if y = x then { c.ent y with size := newEntry } else c.ent y,
                          cur := c.cur + diff }
        ejectTo (c.table.length + 1) (touchPtr c x) c.max o.tombs
    else
      let diff := oldSz - newSz
      let c := { c with ent := fun y => if y = x then { c.ent y with size := e.size - diff } else c.ent y,
                        cur := c.cur - diff }
      touchPtr c x

/-- `retain`: `tail = seal.prev; while tail != seal { … remove_entry(key) …; tail = entry.prev }` —
the link is read *after* the removal, from the just-vacated bucket. -/
def retainGoB (pr : Nat → Key → Val → Bool) : Nat → CacheB → Nat → Nat → Nat → CacheB
  | 0, c, _, _, _ => c
  | fuel + 1, c, tail, i, tomb =>
    if tail = c.sl then c
    else
      let c := c.check (c.owns tail)
      let e := c.ent tail
      let keep := pr i e.key e.val
      let c1 := if keep then c
        else match c.find e.key.id with
          | some y => removeAt c y tomb
          | none => c.check false
      let c1 := c1.check (c1.readable tail)
      retainGoB pr fuel c1 (c1.links tail).prev (i + 1) (if keep then tomb else tomb - 1)

def retain (c : CacheB) (pr : Nat → Key → Val → Bool) (o : Oracle) : CacheB :=
  retainGoB pr (c.table.length + 1) c (c.links c.sl).prev 0 o.tombs

/-- `clear`: drain the table dropping every entry, reset the seal. -/
def clear (c : CacheB) : CacheB :=
  let c := c.check (c.table.all fun a => c.owns a)
  let c1 := { c with st := fun y => if c.st y = SlotSt.full then .vacant else c.st y,
                     has := fun y => if c.st y = SlotSt.full then false else c.has y,
                     table := [], cur := 0, shape := c.shape.cleared }
  setPrev (setNext c1 c1.sl c1.sl) c1.sl c1.sl

/-- `Drop for LruCache`: every listed entry is dropped (it must still be owned), the seal freed. -/
def dropCache (c : CacheB) : CacheB :=
  let c := c.check (c.table.all fun a => c.owns a)
  { c with st := fun _ => .dead, has := fun _ => false, table := [] }

/-! ## iterators: two cursors -/

structure Cursors where
  /-- `None` = the null pointer (exhausted, or created on an empty cache) -/
  next : Option Nat
  nextBack : Nat
deriving Repr, DecidableEq, Inhabited

/-- `Iter::new` / `TakingIterator::new` -/
def cursorsNew (c : CacheB) : Cursors :=
  if c.shape.items = 0 then ⟨none, 0⟩ else ⟨some (c.links c.sl).prev, (c.links c.sl).next⟩

/-- One `next` (front) or `next_back`. `take`: the entry is moved out with `ptr::read`. Returns the
address yielded. -/
def cursorStep (c : CacheB) (it : Cursors) (front take : Bool) : CacheB × Cursors × Option Nat :=
  match it.next with
  | none => (c, it, none)
  | some nx =>
    let a := if front then nx else it.nextBack
    let c := c.check (c.owns a)
    let it' : Cursors :=
      if nx = it.nextBack then ⟨none, it.nextBack⟩
      else if front then ⟨some (c.links a).prev, it.nextBack⟩ else ⟨some nx, (c.links a).next⟩
    let c := if take then { c with has := fun y => if y = a then false else c.has y } else c
    (c, it', some a)

def cursorRun : CacheB → Cursors → List Bool → Bool → CacheB × Cursors × List (Option Nat)
  | c, it, [], _ => (c, it, [])
  | c, it, f :: fs, take =>
    let r := cursorStep c it f take
    let r2 := cursorRun r.1 r.2.1 fs take
    (r2.1, r2.2.1, r.2.2 :: r2.2.2)

/-- drain the rest from the front (the `for _ in self.by_ref() {}` of the `Drop` impls) -/
def cursorDrain : Nat → CacheB → Cursors → CacheB × Cursors
  | 0, c, it => (c, it)
  | fuel + 1, c, it =>
    match it.next with
    | none => (c, it)
    | some _ => let r := cursorStep c it true true; cursorDrain fuel r.1 r.2.1

/-- `Drain::new` after the `fix:` commit: cursors first, then the cache is reset
(`clear_no_drop`: the buckets become vacant but keep their contents). -/
def drainDetach (c : CacheB) : CacheB :=
  let c1 := { c with st := fun y => if c.st y = SlotSt.full then .vacant else c.st y,
                     table := [], cur := 0, shape := c.shape.cleared }
  setPrev (setNext c1 c1.sl c1.sl) c1.sl c1.sl

/-- An iterator scenario at Level B. Returns the cache afterwards (for the owning `into_*` kinds:
the state after the iterator *and the cache inside it* are gone, or leaked). -/
def iterScenario (c : CacheB) (kind : IterKind) (calls : List Bool) (forget : Bool) : CacheB × List (Option Nat) :=
  let it := cursorsNew c
  if kind.borrowing then
    let r := cursorRun c it calls false
    (r.1, r.2.2)
  else if kind = .drain then
    let c1 := drainDetach c
    let r := cursorRun c1 it calls true
    if forget then (r.1, r.2.2)
    else ((cursorDrain (c.table.length + 1) r.1 r.2.1).1, r.2.2)
  else
    let r := cursorRun c it calls true
    if forget then (r.1, r.2.2)
    else
      -- `IntoIter::drop`: consume the rest, `clear_no_drop`, then the cache itself is dropped
      let r2 := cursorDrain (c.table.length + 1) r.1 r.2.1
      let c2 := { r2.1 with table := [], st := fun y => if r2.1.st y = SlotSt.full then .vacant else r2.1.st y }
      (dropCache c2, r.2.2)

/-! ## clone -/

/-- `Clone`: a new seal and a table for `capacity()`; each entry copied LRU→MRU with the *source's*
links (as `Entry::clone` does), then `insert_untracked` → `set_head` overwrites them. The clone lives
in its own address space `CacheB` (fresh heap): sharing would show as a dereference of an address
that is dead *in the clone's heap*. -/
def cloneGo : Nat → CacheB → CacheB → Nat → Nat → CacheB
  | 0, _, d, _, _ => d
  | fuel + 1, src, d, cur, base =>
    if cur = src.sl then d
    else
      let e := src.ent cur
      let e' : Entry := { e with key := { e.key with tok := base }, val := { e.val with tok := base + 1 } }
      let a := d.fresh
      -- the copied node still carries the source's `prev`/`next` (addresses of the *source* heap,
      -- marked by an offset that is dead in the clone)
      let d1 := { d with st := fun y => if y = a then .full else d.st y,
                         has := fun y => if y = a then true else d.has y,
                         ent := fun y => if y = a then e' else d.ent y,
                         links := fun y => if y = a then ⟨(src.links cur).prev + 1000000007, (src.links cur).next + 1000000007⟩ else d.links y,
                         table := d.table ++ [a],
                         shape := d.shape.inserted false,
                         fresh := a + 1 }
      cloneGo fuel src (setHead d1 a) (src.links cur).prev (base + 2)

def clone (c : CacheB) (base : Nat) : CacheB :=
  let d := { CacheB.new c.max c.shape.capacity with cur := c.cur }
  cloneGo (c.table.length + 1) c d (c.links c.sl).prev base

end CacheB

/-- One operation at Level B (state only; return values and events are Level A's). -/
def stepB (p : Params) (c : CacheB) (op : Op) (o : Oracle) : CacheB :=
  match op with
  | .insert k v => c.insert p k v o
  | .tryInsert k v => c.tryInsert p k v o
  | .get id | .getEntry id | .touch id => c.getEntry id
  | .peek id | .peekEntry id | .contains id => let _ := c.find id; c
  | .remove id | .removeEntry id => c.removeEntry id o
  | .removeLru => c.removeLru o
  | .removeMru => c.removeMru o
  | .getLru => c.getLru
  | .peekLru | .peekMru | .debugFmt => c
  | .setMaxSize m => c.setMaxSize m o
  | .reserve a | .tryReserve a => c.reserve p a o
  | .shrinkTo m => c.shrinkTo p m o
  | .shrinkToFit => c.shrinkTo p 0 o
  | .mutate id f => c.mutate p id f o
  | .retain pr => c.retain pr o
  | .clear => c.clear
  | .iterate kind calls forget => (c.iterScenario kind calls forget).1
  | .cloneProbe base => let d := c.clone base; { c with ub := c.ub || (d.dropCache).ub }

end LruMem
