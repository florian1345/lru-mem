import LruMem.Model.Ptr
import LruMem.Model.Panic
/-!
# Panics in user code, at the pointer level (C16)

`stepPB p c op o kind n` is the pointer structure the real code leaves behind when the `n`-th callback
of kind `kind` of operation `op` panics — what has been written to the heap up to that point, plus the
effect of unwinding:

* a panic in the first hash / size estimate of a call happens before anything is written;
* a panic in the hash of the `j`-th eviction of `eject_to_target` (the `remove_ptr` lookup) leaves
  `j - 1` complete evictions;
* a panic in a re-hash inside `move_to_table` fires the `ReallocationGuard` (the `fix:` of finding F2):
  the new table is emptied with `clear_no_drop` (the entries moved so far are leaked), the seal is
  linked to itself, `current_size = 0`; unwinding then drops `old_table.into_iter()`, which frees the
  old allocation (its remaining entries have no drop glue: leaked). `reallocateAbortLegacy` is the
  state *without* the guard (the code before the fix): links into the freed allocation survive.
* `mutate`: the closure has written the value in place; the recorded sizes are updated only after the
  second size estimate;
* `retain`: the walk stops at the panicking predicate call / removal lookup.
-/
namespace LruMem
namespace CacheB

/-- `move_to_table` for request `n` aborted by a panicking re-hash after `k` entries were moved: the
guard empties the cache, unwinding frees the old allocation. -/
def reallocateAbort (c : CacheB) (n k : Nat) : CacheB :=
  let start := c.fresh
  let c1 := moveAll c (c.table.take k)
  let c2 := { c1 with st := fun y => if y = c1.sl then c1.st y
                                      else if y < start then .dead
                                      else if c1.st y = SlotSt.full then .vacant else c1.st y,
                      table := [], cur := 0, shape := (c.shape.rebuilt n).cleared }
  setPrev (setNext c2 c2.sl c2.sl) c2.sl c2.sl

/-- The same abort *without* the guard (the code before the `fix:` commit): `self.table` is the new
table holding the `k` entries moved so far, the old allocation is freed by unwinding, the list still
runs through the entries that were not moved. -/
def reallocateAbortLegacy (c : CacheB) (n k : Nat) : CacheB :=
  let start := c.fresh
  let c1 := moveAll c (c.table.take k)
  { c1 with st := fun y => if y < start ∧ y ≠ c1.sl then .dead else c1.st y,
            table := (List.range k).map (· + start),
            shape := { buckets := bucketsFor n, items := k, growthLeft := freshCap n - k } }

def insertAbort (p : Params) (c : CacheB) (k : Key) (v : Val) (o : Oracle) (kind : CbKind) (n : Nat) : CacheB :=
  let s := entrySize p k v
  match kind with
  | .hash =>
    if n ≤ 1 then c
    else
      let tomb' := if (c.find k.id).isSome then o.tombs - 1 else o.tombs
      let c1 := c.dedupe k.id o.tombs
      let c2 := ejectTo (c1.table.length + 1) c1 (c.max - s) tomb'
      let ne := c1.table.length - c2.table.length
      let j := n - 1
      if j ≤ ne then evictN (j - 1) c1 tomb'
      else reallocateAbort c2 (Nat.max (2 * c2.shape.capacity) 1) (j - ne - 1)
  | _ => c

def tryInsertAbort (c : CacheB) (kind : CbKind) (n : Nat) : CacheB :=
  match kind with
  | .hash => if n ≤ 1 then c else reallocateAbort c (Nat.max (2 * c.shape.capacity) 1) (n - 2)
  | _ => c

def mutateAbort (p : Params) (c : CacheB) (id : Nat) (f : Val → Val × Nat) (o : Oracle) (kind : CbKind) (n : Nat) : CacheB :=
  match c.find id with
  | none => c
  | some x =>
    let e := c.ent x
    let oldSz := valMemSize p e.val
    let v' := (f e.val).1
    let newSz := valMemSize p v'
    let written := { c with ent := fun y => if y = x then { c.ent y with val := v' } else c.ent y }
    match kind with
    | .szV => if n ≤ 1 then c else written
    | .hash =>
      if n ≤ 1 then c
      else if newSz > oldSz then
        let diff := newSz - oldSz
        let newEntry := e.size + diff
        if newEntry > c.max then written
        else
          let c' := { written with ent := fun y => if y = x then { written.ent y with size := newEntry } else written.ent y,
                                   cur := c.cur + diff }
          evictN (n - 2) (touchPtr c' x) o.tombs
      else c
    | _ => c

/-- `retain` aborted at its `n`-th predicate call (`kind = pred`) or in the removal lookup after the
`n`-th rejecting call (`kind = hash`). -/
def retainAbortGoB (pr : Nat → Key → Val → Bool) (kind : CbKind) : Nat → CacheB → Nat → Nat → Nat → Nat → CacheB
  | 0, c, _, _, _, _ => c
  | fuel + 1, c, tail, n, i, tomb =>
    if tail = c.sl then c
    else if kind = .pred ∧ n ≤ 1 then c
    else
      let c := c.check (c.owns tail)
      let e := c.ent tail
      let keep := pr i e.key e.val
      if keep then
        retainAbortGoB pr kind fuel c (c.links tail).prev (if kind = .pred then n - 1 else n) (i + 1) tomb
      else if kind = .hash ∧ n ≤ 1 then c
      else
        let c1 := match c.find e.key.id with
          | some y => removeAt c y tomb
          | none => c.check false
        let c1 := c1.check (c1.readable tail)
        retainAbortGoB pr kind fuel c1 (c1.links tail).prev (n - 1) (i + 1) (tomb - 1)

def retainAbort (c : CacheB) (pr : Nat → Key → Val → Bool) (o : Oracle) (kind : CbKind) (n : Nat) : CacheB :=
  retainAbortGoB pr kind (c.table.length + 1) c (c.links c.sl).prev n 0 o.tombs

end CacheB

/-- One operation at Level B with a panic injected at the `n`-th callback of kind `kind` (state only;
the events and the decision whether the operation makes that many callbacks are Level A's). -/
def stepPB (p : Params) (c : CacheB) (op : Op) (o : Oracle) (kind : CbKind) (n : Nat) : CacheB :=
  if n = 0 ∨ cbCount kind (step p c.abs op o).evs < n then stepB p c op o
  else
    match op with
    | .insert k v => c.insertAbort p k v o kind n
    | .tryInsert _ _ => c.tryInsertAbort kind n
    | .setMaxSize _ => c.evictN (n - 1) o.tombs
    | .reserve a | .tryReserve a => c.reallocateAbort (c.shape.items + a) (n - 1)
    | .shrinkTo m => c.reallocateAbort (Nat.max c.shape.items m) (n - 1)
    | .shrinkToFit => c.reallocateAbort (Nat.max c.shape.items 0) (n - 1)
    | .mutate id f => c.mutateAbort p id f o kind n
    | .retain pr => c.retainAbort pr o kind n
    | .get _ | .getEntry _ | .touch _ | .peek _ | .peekEntry _ | .contains _ | .remove _ | .removeEntry _
    | .removeLru | .removeMru | .cloneProbe _ => c
    | _ => stepB p c op o

end LruMem
