import LruMem.Proofs.Chain
/-!
# Level B invariant (`Rep`) and the specifications of the pointer primitives
-/
namespace LruMem
open LruMem.Chain

/-- `c` represents the LRU→MRU address list `l`: the links form the closed chain through the seal,
exactly the listed addresses are full buckets of the current table (and still own their entries),
there is one seal, nothing beyond the allocation counter is alive, and no invalid access has
happened. -/
structure Rep (c : CacheB) (l : List Nat) : Prop where
  chain : LInv c.links c.sl l
  full : ∀ a, a ∈ l ↔ c.st a = .full
  sealSt : c.st c.sl = .sealed
  oneSeal : ∀ a, c.st a = .sealed → a = c.sl
  owns : ∀ a ∈ l, c.has a = true
  table : c.table.Perm l
  freshDead : ∀ a, c.fresh ≤ a → c.st a = .dead
  noUb : c.ub = false

theorem Rep.sl_not_mem {c : CacheB} {l : List Nat} (r : Rep c l) : c.sl ∉ l :=
  (List.nodup_cons.mp r.chain.2).1

theorem Rep.nodup {c : CacheB} {l : List Nat} (r : Rep c l) : l.Nodup :=
  (List.nodup_cons.mp r.chain.2).2

theorem Rep.length {c : CacheB} {l : List Nat} (r : Rep c l) : c.table.length = l.length := r.table.length_eq

theorem Rep.order {c : CacheB} {l : List Nat} (r : Rep c l) : c.order = l := by
  unfold CacheB.order
  rw [r.length]
  exact walkPrev_eq _ _ _ r.chain

theorem Rep.mirror {c : CacheB} {l : List Nat} (r : Rep c l) :
    CacheB.walkNext c.links c.sl c.table.length (c.links c.sl).next = c.order.reverse ∧
    c.order.length = c.table.length := by
  rw [r.order, r.length]
  exact ⟨walkNext_eq _ _ _ r.chain, rfl⟩

/-- State inside the move loop: the chain `cur` mixes nodes already moved to the new table and nodes
still in the old one; all of them are readable and own their entries. -/
structure RepM (c : CacheB) (cur : List Nat) : Prop where
  chain : LInv c.links c.sl cur
  live : ∀ a ∈ cur, c.st a = .full ∧ c.has a = true
  sealSt : c.st c.sl = .sealed
  oneSeal : ∀ a, c.st a = .sealed → a = c.sl
  freshDead : ∀ a, c.fresh ≤ a → c.st a = .dead
  noUb : c.ub = false

theorem Rep.toRepM {c : CacheB} {l : List Nat} (r : Rep c l) : RepM c l :=
  ⟨r.chain, fun a ha => ⟨(r.full a).mp ha, r.owns a ha⟩, r.sealSt, r.oneSeal, r.freshDead, r.noUb⟩

theorem RepM.st_ne_dead {c : CacheB} {l : List Nat} (r : RepM c l) {a : Nat} (h : a ∈ c.sl :: l) :
    c.st a ≠ .dead := by
  rcases List.mem_cons.mp h with rfl | h
  · simp [r.sealSt]
  · simp [(r.live a h).1]

theorem RepM.ne_fresh {c : CacheB} {l : List Nat} (r : RepM c l) {a : Nat} (h : a ∈ c.sl :: l) : a ≠ c.fresh :=
  fun e => r.st_ne_dead h (e ▸ r.freshDead _ (Nat.le_refl _))

theorem Rep.writable_mem {c : CacheB} {l : List Nat} (r : Rep c l) {a : Nat} (h : a ∈ c.sl :: l) :
    c.writable a = true := by
  rcases List.mem_cons.mp h with rfl | h
  · rw [CacheB.writable, r.sealSt]; rfl
  · rw [CacheB.writable, (r.full a).mp h]; rfl

theorem Rep.readable_mem {c : CacheB} {l : List Nat} (r : Rep c l) {a : Nat} (h : a ∈ c.sl :: l) :
    c.readable a = true :=
  bne_iff_ne.mpr (r.toRepM.st_ne_dead h)

theorem Rep.empty {c : CacheB} (hlinks : c.links c.sl = ⟨c.sl, c.sl⟩) (hseal : c.st c.sl = .sealed)
    (hfull : ∀ a, c.st a ≠ .full) (hone : ∀ a, c.st a = .sealed → a = c.sl)
    (hdead : ∀ a, c.fresh ≤ a → c.st a = .dead) (htable : c.table = []) (hub : c.ub = false) : Rep c [] :=
  ⟨⟨by simp [hlinks], by simp⟩, fun a => by simp [hfull a], hseal, hone, fun _ h => (nomatch h),
    htable ▸ List.Perm.nil, hdead, hub⟩

theorem setNext_links (c : CacheB) (a v : Nat) : (c.setNext a v).links = Chain.setNext c.links a v := rfl
theorem setPrev_links (c : CacheB) (a v : Nat) : (c.setPrev a v).links = Chain.setPrev c.links a v := rfl

/-- `clear_no_drop` on a structure caught with chain `l`: buckets below `start` are freed (the seal
apart), full ones vacated, the table is empty (`c1`), then the seal is linked to itself, which writes
to nothing but the seal. That is the empty list, whatever the chain looked like (`start = 0`: `clear`,
`Drain::new`; `start` = the first bucket of a new table: the reallocation guard). -/
theorem RepM.clearNoDrop {c c1 : CacheB} {l : List Nat} (r : RepM c l) (start : Nat) (hsl : c1.sl = c.sl)
    (hst : ∀ a, c1.st a = if a ≠ c.sl ∧ a < start then .dead else if c.st a = .full then .vacant else c.st a)
    (htable : c1.table = []) (hfresh : c1.fresh = c.fresh) (hub : c1.ub = false) :
    Rep ((c1.setNext c1.sl c1.sl).setPrev c1.sl c1.sl) [] := by
  have hnew : ∀ a, c1.st a ≠ .full ∧ (c1.st a = .sealed → a = c.sl) ∧ (c.st a = .dead → c1.st a = .dead) := by
    intro a
    rw [hst]
    by_cases h1 : a ≠ c.sl ∧ a < start
    · rw [if_pos h1]; exact ⟨nofun, nofun, fun _ => rfl⟩
    · rw [if_neg h1]
      by_cases h2 : c.st a = .full
      · rw [if_pos h2]; exact ⟨nofun, nofun, fun e => nomatch h2.symm.trans e⟩
      · rw [if_neg h2]; exact ⟨h2, r.oneSeal a, id⟩
  have hseal : c1.st c1.sl = .sealed := by rw [hsl, hst, if_neg fun h => h.1 rfl, r.sealSt]; rfl
  refine Rep.empty ?_ hseal (fun a => (hnew a).1) (fun a ha => hsl ▸ (hnew a).2.1 ha)
    (fun a ha => (hnew a).2.2 (r.freshDead a (hfresh ▸ ha))) htable ?_
  · show ((c1.setNext c1.sl c1.sl).setPrev c1.sl c1.sl).links c1.sl = _
    rw [setPrev_links, setNext_links, Chain.setPrev, Chain.setNext, if_pos rfl, if_pos rfl]
    rfl
  · show (c1.ub || !c1.writable c1.sl || !c1.writable c1.sl) = false
    rw [hub, CacheB.writable, hseal]; rfl

theorem check_true (c : CacheB) : c.check true = c := by
  cases c; simp [CacheB.check]

theorem Rep.owns_mem {c : CacheB} {l : List Nat} (r : Rep c l) {a : Nat} (ha : a ∈ l) : c.owns a = true := by
  rw [CacheB.owns, (r.full a).mp ha, r.owns a ha]; rfl

/-- What `clear` and `Drop` check before they drop the entries: every bucket the table lists owns one. -/
theorem Rep.table_owns {c : CacheB} {l : List Nat} (r : Rep c l) : (c.table.all fun a => c.owns a) = true :=
  List.all_eq_true.mpr fun _ ha => r.owns_mem (r.table.mem_iff.mp ha)

theorem dropCache_noUb {c : CacheB} {l : List Nat} (r : Rep c l) : c.dropCache.ub = false := by
  show (c.ub || !(c.table.all fun a => c.owns a)) = false
  rw [r.noUb, r.table_owns]; rfl

theorem Rep.congr {c c' : CacheB} {l : List Nat} (r : Rep c l) (h1 : c'.links = c.links) (h2 : c'.st = c.st)
    (h3 : c'.has = c.has) (h4 : c'.sl = c.sl) (h5 : c'.table = c.table) (h6 : c'.fresh = c.fresh) (h7 : c'.ub = c.ub) :
    Rep c' l :=
  ⟨by rw [h1, h4]; exact r.chain, by rw [h2]; exact r.full, by rw [h2, h4]; exact r.sealSt,
   by rw [h2, h4]; exact r.oneSeal, by rw [h3]; exact r.owns, by rw [h5]; exact r.table,
   by rw [h2, h6]; exact r.freshDead, by rw [h7]; exact r.noUb⟩

theorem Rep.lt_fresh {c : CacheB} {l : List Nat} (r : Rep c l) {a : Nat} (h : a ∈ c.sl :: l) : a < c.fresh :=
  Nat.lt_of_not_le fun hge => r.toRepM.st_ne_dead h (r.freshDead a hge)

theorem linv_closed {h : Heap} {s : Nat} {l : List Nat} (hinv : LInv h s l) :
    ∀ a ∈ s :: l, (h a).prev ∈ s :: l ∧ (h a).next ∈ s :: l := by
  intro a ha
  rcases List.mem_cons.mp ha with rfl | ha
  · obtain ⟨e1, e2⟩ := seal_ends hinv
    exact ⟨e1 ▸ headD_mem a l, e2 ▸ getLastD_mem a l⟩
  · obtain ⟨l1, l2, rfl⟩ := List.append_of_mem ha
    exact ⟨hinv.neighbours.1, hinv.neighbours.2.1⟩

theorem Rep.neighbours {c : CacheB} {l1 l2 : List Nat} {x : Nat} (r : Rep c (l1 ++ x :: l2)) :
    (c.links x).prev ∈ c.sl :: (l1 ++ x :: l2) ∧ (c.links x).next ∈ c.sl :: (l1 ++ x :: l2) ∧
    (c.links x).next ∈ c.sl :: l1 ∧ (c.links x).prev ∈ l2 ++ [c.sl] :=
  r.chain.neighbours

theorem Rep.prev_of {c : CacheB} {l1 l2 : List Nat} {x : Nat} (r : Rep c (l1 ++ x :: l2)) :
    (c.links x).prev = (l2.head?).getD c.sl := by
  obtain ⟨-, -, hp, -⟩ := r.chain.mid (m := [x])
  exact hp

/- `cases c` first, here and below: the fields of a constructor application reduce at once, those of a
variable only after the whole update has been unfolded around it. -/
theorem unhinge_eq (c : CacheB) (x : Nat) : c.unhinge x = { c with
    links := Chain.unhinge c.links x,
    ub := c.ub || !c.readable x || !c.writable (c.links x).prev || !c.writable (c.links x).next } := by
  cases c; rfl

theorem setHead_eq (c : CacheB) (x : Nat) : c.setHead x = { c with
    links := Chain.insertBetween c.links x c.sl (c.links c.sl).next,
    ub := c.ub || !(c.readable c.sl && c.st x == .full) || !c.writable c.sl || !c.writable (c.links c.sl).next } := by
  cases c; rfl

theorem unhinge_frame (c : CacheB) (x : Nat) :
    (c.unhinge x).st = c.st ∧ (c.unhinge x).ent = c.ent ∧ (c.unhinge x).has = c.has ∧ (c.unhinge x).sl = c.sl ∧
    (c.unhinge x).table = c.table ∧ (c.unhinge x).cur = c.cur ∧ (c.unhinge x).max = c.max ∧
    (c.unhinge x).shape = c.shape ∧ (c.unhinge x).fresh = c.fresh := by
  rw [unhinge_eq]; exact ⟨rfl, rfl, rfl, rfl, rfl, rfl, rfl, rfl, rfl⟩

theorem setHead_frame (c : CacheB) (x : Nat) :
    (c.setHead x).st = c.st ∧ (c.setHead x).ent = c.ent ∧ (c.setHead x).has = c.has ∧ (c.setHead x).sl = c.sl ∧
    (c.setHead x).table = c.table ∧ (c.setHead x).cur = c.cur ∧ (c.setHead x).max = c.max ∧
    (c.setHead x).shape = c.shape ∧ (c.setHead x).fresh = c.fresh := by
  rw [setHead_eq]; exact ⟨rfl, rfl, rfl, rfl, rfl, rfl, rfl, rfl, rfl⟩

/-- `set_head` on a structure that is already `Rep` for `l ++ [x]` in everything but the links; the
links of `x` itself are arbitrary. -/
theorem setHead_rep {c : CacheB} {l : List Nat} {x : Nat} (hc : LInv c.links c.sl l) (hx : x ∉ c.sl :: l)
    (full : ∀ a, a ∈ l ++ [x] ↔ c.st a = .full) (sealSt : c.st c.sl = .sealed)
    (oneSeal : ∀ a, c.st a = .sealed → a = c.sl) (owns : ∀ a ∈ l ++ [x], c.has a = true)
    (table : c.table.Perm (l ++ [x])) (freshDead : ∀ a, c.fresh ≤ a → c.st a = .dead)
    (noUb : c.ub = false) : Rep (c.setHead x) (l ++ [x]) := by
  rw [setHead_eq]
  refine ⟨setHead_inv _ _ _ _ hc hx, full, sealSt, oneSeal, owns, table, freshDead, ?_⟩
  have hw : ∀ a ∈ c.sl :: l, c.writable a = true := by
    intro a ha
    rcases List.mem_cons.mp ha with rfl | ha
    · rw [CacheB.writable, sealSt]; rfl
    · rw [CacheB.writable, (full a).mp (List.mem_append_left _ ha)]; rfl
  have hn : (c.links c.sl).next ∈ c.sl :: l := (seal_ends hc).2 ▸ getLastD_mem c.sl l
  have hxf : c.st x = .full := (full x).mp List.mem_append_cons_self
  show (c.ub || _ || _ || _) = false
  rw [noUb, hw _ (List.mem_cons_self ..), hw _ hn, hxf, CacheB.readable, sealSt]
  rfl

theorem mem_split_ne {l1 l2 : List Nat} {x a : Nat} (hnd : (l1 ++ x :: l2).Nodup) :
    a ∈ l1 ++ l2 ↔ (a ∈ l1 ++ x :: l2 ∧ a ≠ x) := by
  have hx : x ∉ l1 ++ l2 := (List.nodup_cons.mp (List.perm_middle.nodup_iff.mp hnd)).1
  rw [List.perm_middle.mem_iff, List.mem_cons]
  exact ⟨fun h => ⟨Or.inr h, fun e => hx (e ▸ h)⟩, fun ⟨h, hne⟩ => h.resolve_left hne⟩

theorem perm_promote (l1 l2 : List Nat) (x : Nat) : (l1 ++ x :: l2).Perm (l1 ++ l2 ++ [x]) :=
  List.perm_middle.trans (List.perm_append_singleton x (l1 ++ l2)).symm

theorem touchPtr_rep {c : CacheB} {l1 l2 : List Nat} {x : Nat} (r : Rep c (l1 ++ x :: l2)) :
    Rep (c.touchPtr x) (l1 ++ l2 ++ [x]) := by
  have hxnot : x ∉ c.sl :: (l1 ++ l2) := fun h => ((mem_split_ne (l1 := c.sl :: l1) r.chain.2).mp h).2 rfl
  obtain ⟨hp, hn, -, -⟩ := r.neighbours
  have hperm := perm_promote l1 l2 x
  rw [CacheB.touchPtr, unhinge_eq]
  refine setHead_rep (unhinge_inv _ _ _ _ _ r.chain) hxnot
    (fun a => (hperm.mem_iff.symm.trans (r.full a))) r.sealSt r.oneSeal
    (fun a ha => r.owns a (hperm.mem_iff.mpr ha)) (r.table.trans hperm) r.freshDead ?_
  show (c.ub || _ || _ || _) = false
  rw [r.noUb, r.readable_mem (.tail _ List.mem_append_cons_self), r.writable_mem hp, r.writable_mem hn]; rfl

theorem removeAt_links (c : CacheB) (x t : Nat) : (c.removeAt x t).links = Chain.unhinge c.links x := by cases c; rfl

theorem removeAt_st (c : CacheB) (x t a : Nat) :
    (c.removeAt x t).st a = if a = x then .vacant else c.st a := by cases c; rfl

/-- The two neighbours are written when the bucket is vacant already. -/
theorem removeAt_ub (c : CacheB) (x t : Nat) :
    (c.removeAt x t).ub = (c.ub || !(c.owns x && c.st x == .full) ||
      !(c.removeAt x t).writable (c.links x).prev || !(c.removeAt x t).writable (c.links x).next) := by
  cases c; rfl

/-- The second part: the links of the vacated bucket stay as they were (`retain` reads them). -/
theorem removeAt_rep {c : CacheB} {l1 l2 : List Nat} {x : Nat} (t : Nat) (r : Rep c (l1 ++ x :: l2)) :
    Rep (c.removeAt x t) (l1 ++ l2) ∧ (c.removeAt x t).links x = c.links x := by
  have hnd := r.nodup
  have hxl : x ∈ l1 ++ x :: l2 := List.mem_append_cons_self
  have hxfull : c.st x = .full := (r.full x).mp hxl
  obtain ⟨hp, hn, -, -⟩ := r.neighbours
  obtain ⟨hnx, hpx⟩ := r.chain.neighbours_ne
  have hne : ∀ a, c.st a ≠ .full → a ≠ x := fun a ha e => ha (e ▸ hxfull)
  have hub : (c.removeAt x t).ub = false := by
    have w1 := r.writable_mem hp
    have w2 := r.writable_mem hn
    unfold CacheB.writable at w1 w2
    rw [removeAt_ub, r.noUb, r.owns_mem hxl, hxfull, CacheB.writable, CacheB.writable, removeAt_st, removeAt_st,
      if_neg hpx, if_neg hnx, w1, w2]
    rfl
  refine ⟨⟨removeAt_links c x t ▸ unhinge_inv _ _ _ _ _ r.chain, fun a => ?_, ?_, fun a ha => ?_, fun a ha => ?_, ?_,
    fun a ha => ?_, hub⟩, ?_⟩
  · rw [removeAt_st, mem_split_ne hnd, r.full a]
    by_cases hax : a = x <;> simp [hax]
  · show (c.removeAt x t).st c.sl = _
    rw [removeAt_st, if_neg (hne _ (by simp [r.sealSt]))]; exact r.sealSt
  · rw [removeAt_st] at ha
    split at ha
    · cases ha
    · exact r.oneSeal a ha
  · obtain ⟨ha, hax⟩ := (mem_split_ne hnd).mp ha
    show (if a = x then false else c.has a) = true
    rw [if_neg hax]; exact r.owns a ha
  · exact (r.table.erase x).trans ((List.perm_middle.erase x).trans (.of_eq (List.erase_cons_head ..)))
  · have hd := r.freshDead a ha
    rw [removeAt_st, if_neg (hne _ (by simp [hd]))]; exact hd
  · rw [removeAt_links]
    simp [Chain.unhinge, Chain.setPrev, Chain.setNext, Ne.symm hpx, Ne.symm hnx]

/-- A bucket written at the fresh address and made the head, as `insert_unchecked` and `clone` do it: the links written
into it do not matter (`set_head` overwrites them, nothing else points there), and the states of the other buckets may
pass through any `g` that keeps what is full, sealed or dead. -/
theorem Rep.pushFresh {c c1 : CacheB} {l : List Nat} (r : Rep c l) (g : SlotSt → SlotSt)
    (gfull : ∀ s, g s = .full ↔ s = .full) (gseal : ∀ s, g s = .sealed ↔ s = .sealed) (gdead : g .dead = .dead)
    (hsl : c1.sl = c.sl) (hlinks : ∀ y, y ≠ c.fresh → c1.links y = c.links y)
    (hst : ∀ y, c1.st y = if y = c.fresh then .full else g (c.st y))
    (hhas : ∀ y, c1.has y = if y = c.fresh then true else c.has y)
    (htable : c1.table = c.table ++ [c.fresh]) (hfresh : c1.fresh = c.fresh + 1) (hub : c1.ub = false) :
    Rep (c1.setHead c.fresh) (l ++ [c.fresh]) := by
  have rm := r.toRepM
  refine setHead_rep (hsl ▸ linv_congr_off r.chain fun a ha => hlinks a (rm.ne_fresh ha))
    (hsl ▸ fun h => rm.ne_fresh h rfl) (fun a => ?_) ?_
    (fun a ha => ?_) (fun a ha => ?_) (htable ▸ r.table.append_right _) (fun a ha => ?_) hub
  · rw [hst, List.mem_append, List.mem_singleton, r.full a]
    by_cases ha : a = c.fresh
    · simp [ha]
    · simp [ha, gfull]
  · rw [hsl, hst, if_neg (rm.ne_fresh (List.mem_cons_self ..)), r.sealSt]; exact (gseal _).mpr rfl
  · rw [hst] at ha
    by_cases h : a = c.fresh
    · rw [if_pos h] at ha; cases ha
    · rw [if_neg h] at ha; exact hsl ▸ r.oneSeal a ((gseal _).mp ha)
  · rw [hhas]
    rcases List.mem_append.mp ha with ha | ha
    · rw [if_neg (rm.ne_fresh (List.mem_cons_of_mem _ ha))]; exact r.owns a ha
    · rw [if_pos (List.mem_singleton.mp ha)]
  · have ha : c.fresh + 1 ≤ a := hfresh ▸ ha
    rw [hst, if_neg (Nat.ne_of_gt ha), r.freshDead a (Nat.le_of_lt ha)]; exact gdead

theorem insertFresh_rep {c : CacheB} {l : List Nat} (e : Entry) (reuse : Bool) (r : Rep c l) :
    Rep (c.insertFresh e reuse) (l ++ [c.fresh]) :=
  r.pushFresh (fun s => if s = .vacant then .dead else s) (fun s => by cases s <;> decide)
    (fun s => by cases s <;> decide) rfl rfl (fun y hy => if_neg hy) (fun _ => rfl) (fun _ => rfl) rfl rfl
    (show (c.ub || !c.readable c.sl) = false by rw [r.noUb, r.readable_mem (List.mem_cons_self ..)]; rfl)

theorem moveOne_links (c : CacheB) (x : Nat) : (c.moveOne x).links = Chain.moveLinks c.links x c.fresh := by
  cases c; rfl

theorem moveOne_st (c : CacheB) (x a : Nat) : (c.moveOne x).st a = if a = c.fresh then .full else c.st a := by
  cases c; rfl

/-- The two neighbours are read when the new bucket is full already. -/
theorem moveOne_ub (c : CacheB) (x : Nat) :
    (c.moveOne x).ub = (c.ub || !c.owns x ||
      !(c.moveOne x).readable (c.links x).prev || !(c.moveOne x).readable (c.links x).next) := by
  cases c; rfl

/-- No invalid access: the old table is still allocated, so neighbours that have not moved yet can be
written. -/
theorem moveOne_rep {c : CacheB} {l1 l2 : List Nat} {x : Nat} (r : RepM c (l1 ++ x :: l2)) :
    RepM (c.moveOne x) (l1 ++ c.fresh :: l2) ∧
    (l1 ++ c.fresh :: l2).map (c.moveOne x).ent = (l1 ++ x :: l2).map c.ent := by
  have hxlive := r.live x List.mem_append_cons_self
  obtain ⟨hp, hn, -, -⟩ := r.chain.neighbours
  have hub : (c.moveOne x).ub = false := by
    have ho : c.owns x = true := by rw [CacheB.owns, hxlive.1, hxlive.2]; rfl
    rw [moveOne_ub, r.noUb, ho, CacheB.readable, CacheB.readable, moveOne_st, moveOne_st, if_neg (r.ne_fresh hp),
      if_neg (r.ne_fresh hn), bne_iff_ne.mpr (r.st_ne_dead hp), bne_iff_ne.mpr (r.st_ne_dead hn)]
    rfl
  refine ⟨⟨moveOne_links c x ▸ move_inv _ _ _ _ _ _ r.chain (fun h => r.ne_fresh h rfl), fun a ha => ?_, ?_,
    fun a ha => ?_, fun a ha => ?_, hub⟩, ?_⟩
  · show (if a = c.fresh then SlotSt.full else c.st a) = .full ∧
      (if a = c.fresh then true else if a = x then false else c.has a) = true
    by_cases hf : a = c.fresh
    · simp [hf]
    · obtain ⟨hm, hax⟩ := (mem_split_ne r.chain.2.of_cons).mp
        ((List.mem_cons.mp (List.perm_middle.mem_iff.mp ha)).resolve_left hf)
      rw [if_neg hf, if_neg hf, if_neg hax]
      exact r.live a hm
  · show (c.moveOne x).st c.sl = .sealed
    rw [moveOne_st, if_neg (r.ne_fresh (List.mem_cons_self ..))]; exact r.sealSt
  · rw [moveOne_st] at ha
    split at ha
    · cases ha
    · exact r.oneSeal a ha
  · have ha : c.fresh < a := ha
    rw [moveOne_st, if_neg (Nat.ne_of_gt ha)]; exact r.freshDead a (Nat.le_of_lt ha)
  · -- the entries travel with the nodes
    have hent : ∀ l : List Nat, (∀ a ∈ l, a ∈ c.sl :: (l1 ++ x :: l2)) → l.map (c.moveOne x).ent = l.map c.ent :=
      fun l hl => List.map_congr_left fun a ha => if_neg (r.ne_fresh (hl a ha))
    rw [List.map_append, List.map_append, List.map_cons, List.map_cons,
      hent l1 fun a ha => List.mem_cons_of_mem _ (List.mem_append_left _ ha),
      hent l2 fun a ha => List.mem_cons_of_mem _ (List.mem_append_right _ (List.mem_cons_of_mem _ ha))]
    show _ ++ (if c.fresh = c.fresh then c.ent x else c.ent c.fresh) :: _ = _
    rw [if_pos rfl]

theorem moveAll_frame (tbl : List Nat) (c : CacheB) :
    (c.moveAll tbl).fresh = c.fresh + tbl.length ∧ (c.moveAll tbl).sl = c.sl ∧
    (c.moveAll tbl).cur = c.cur ∧ (c.moveAll tbl).max = c.max := by
  induction tbl generalizing c with
  | nil => exact ⟨rfl, rfl, rfl, rfl⟩
  | cons x tbl ih =>
    obtain ⟨hf, hs, hc, hm⟩ := ih (c.moveOne x)
    cases c
    exact ⟨hf.trans (Nat.add_right_comm _ 1 _), hs, hc, hm⟩

theorem range_map_add (n k : Nat) : (List.range n).map (· + k) = List.range' k n := by
  rw [List.range'_eq_map_range]; exact List.map_congr_left fun a _ => Nat.add_comm a k

/-- The move loop over what is left of the table, `tbl` (any order); `done` are the buckets already in
the new table. -/
theorem moveAll_rep : ∀ (tbl : List Nat) (c : CacheB) (cur done : List Nat), RepM c cur → cur.Perm (done ++ tbl) →
    ∃ cur', RepM (c.moveAll tbl) cur' ∧ cur'.map (c.moveAll tbl).ent = cur.map c.ent ∧
      cur'.Perm (done ++ (List.range tbl.length).map (· + c.fresh)) := by
  intro tbl c cur done r hp
  rw [range_map_add]
  induction tbl generalizing c cur done with
  | nil => exact ⟨cur, r, rfl, hp⟩
  | cons x tbl ih =>
    obtain ⟨l1, l2, rfl⟩ := List.append_of_mem (hp.mem_iff.mpr (List.mem_append_right _ (List.mem_cons_self ..)))
    obtain ⟨r1, hent1⟩ := moveOne_rep r
    have hp1 : (l1 ++ c.fresh :: l2).Perm ((c.fresh :: done) ++ tbl) :=
      List.perm_middle.trans
        (((List.perm_cons x).mp ((List.perm_middle.symm.trans hp).trans List.perm_middle)).cons _)
    obtain ⟨cur', r', hent', hp'⟩ := ih (c.moveOne x) _ _ r1 hp1
    exact ⟨cur', r', hent'.trans hent1, hp'.trans List.perm_middle.symm⟩

/-- `move_to_table`, the loop and the freeing of the old allocation: the same entries in the same
recency order at new buckets (`c.fresh ≤ a`: with `linv_closed`, no link dangles into the freed table). -/
theorem reallocate_rep {c : CacheB} {l : List Nat} (n : Nat) (r : Rep c l) :
    ∃ l', Rep (c.reallocate n) l' ∧ l'.map (c.reallocate n).ent = l.map c.ent ∧
      (c.reallocate n).cur = c.cur ∧ (c.reallocate n).max = c.max ∧ (c.reallocate n).sl = c.sl ∧
      (∀ a ∈ l', c.fresh ≤ a) := by
  obtain ⟨cur', r', hent, hp⟩ := moveAll_rep c.table c l [] r.toRepM r.table.symm
  obtain ⟨hf, hs, hc, hm⟩ := moveAll_frame c.table c
  have hrange : ∀ a, a ∈ cur' ↔ (c.fresh ≤ a ∧ a < c.fresh + c.table.length) := fun a =>
    hp.mem_iff.trans (range_map_add .. ▸ List.mem_range'_1)
  have hst : ∀ a, (c.reallocate n).st a =
      if a < c.fresh ∧ a ≠ (c.moveAll c.table).sl then .dead else (c.moveAll c.table).st a := fun a => rfl
  refine ⟨cur', ⟨r'.chain, fun a => ?_, ?_, fun a ha => ?_, fun a ha => (r'.live a ha).2,
    hp.symm, fun a ha => ?_, r'.noUb⟩, hent, hc, hm, hs, fun a ha => ((hrange a).mp ha).1⟩
  · rw [hst, hs]
    constructor
    · intro ha
      rw [if_neg fun h => Nat.not_lt.mpr ((hrange a).mp ha).1 h.1]; exact (r'.live a ha).1
    · intro h
      split at h
      · cases h
      · rename_i hlt
        have hasl : a ≠ c.sl := fun e => by rw [e, ← hs, r'.sealSt] at h; cases h
        have h1 : c.fresh ≤ a := Nat.le_of_not_lt fun h' => hlt ⟨h', hasl⟩
        exact (hrange a).mpr ⟨h1, Nat.lt_of_not_le fun h' => by rw [r'.freshDead a (hf ▸ h')] at h; cases h⟩
  · show (c.reallocate n).st (c.moveAll c.table).sl = .sealed
    rw [hst, if_neg (fun h => h.2 rfl)]; exact r'.sealSt
  · rw [hst] at ha
    split at ha
    · cases ha
    · exact r'.oneSeal a ha
  · have ha' : c.fresh + c.table.length ≤ a := hf ▸ ha
    rw [hst, if_neg fun h => Nat.not_lt.mpr (Nat.le_trans (Nat.le_add_right ..) ha') h.1]
    exact r'.freshDead a ha

end LruMem
