import LruMem.Proofs.Refine
/-!
# Iterators at Level B: two cursors walking the chain

One `next`/`next_back` keeps `CurInv` and changes nothing in the cache but `has` at the yielded node
(`cursorStep_spec`); a call sequence and the `Drop` of a taking iterator follow from it.
-/
namespace LruMem
open LruMem.Chain

/-- `c` after the entries at the yielded addresses `ys` were moved out (if the iterator takes) -/
def CacheB.moveOut (c : CacheB) (take : Bool) (ys : List (Option Nat)) : CacheB :=
  { c with has := fun y => !(take && ys.contains (some y)) && c.has y }

theorem moveOut_false (c : CacheB) (ys : List (Option Nat)) : c.moveOut false ys = c := by
  cases c; rfl

theorem moveOut_nil (c : CacheB) (take : Bool) : c.moveOut take [] = c := by
  cases c; cases take <;> rfl

theorem moveOut_moveOut (c : CacheB) (take : Bool) (ys zs : List (Option Nat)) :
    (c.moveOut take ys).moveOut take zs = c.moveOut take (ys ++ zs) := by
  refine congrArg (fun f => ({ c with has := f } : CacheB)) (funext fun y => ?_)
  show (_ && (!(take && ys.contains (some y)) && c.has y)) = _
  rw [List.contains_append, Bool.and_or_distrib_left, Bool.not_or, Bool.and_assoc, Bool.and_left_comm]

theorem moveOut_has {c : CacheB} {take : Bool} {ys : List (Option Nat)} {a : Nat} (h : some a ∉ ys) :
    (c.moveOut take ys).has a = c.has a := by
  show (!(take && ys.contains (some a)) && c.has a) = _
  rw [List.contains_eq_mem, decide_eq_false h, Bool.and_false]
  rfl

theorem owns_moveOut {c : CacheB} {take : Bool} {x a : Nat} (h : a ≠ x) :
    (c.moveOut take [some x]).owns a = c.owns a :=
  congrArg (c.st a != .dead && ·) (moveOut_has fun hh => h (Option.some.inj (List.mem_singleton.mp hh)))

theorem Rep.moveOut {c : CacheB} {l : List Nat} (r : Rep c l) (take : Bool) {ys : List (Option Nat)}
    (h : ∀ a ∈ l, some a ∉ ys) : Rep (c.moveOut take ys) l :=
  { r with owns := fun a ha => (moveOut_has (h a ha)).trans (r.owns a ha) }

/-- what is left of the walk: `rem` is linked both ways, duplicate-free, every node in it still
holds its key and value, and the two cursors sit on its ends (`next = null` iff nothing is left) -/
structure CurInv (c : CacheB) (rem : List Nat) (it : CacheB.Cursors) : Prop where
  chain : Chain c.links rem
  nodup : rem.Nodup
  live : ∀ a ∈ rem, c.owns a = true
  front : it.next = rem.head?
  back : ∀ z, rem.getLast? = some z → it.nextBack = z

def stepRem (rem : List Nat) (front : Bool) : Option Nat × List Nat :=
  if front then (rem.head?, rem.tail) else (rem.getLast?, rem.dropLast)

theorem stepRem_nil (f : Bool) : stepRem [] f = (none, []) := by cases f <;> rfl
theorem stepRem_front (x : Nat) (rest : List Nat) : stepRem (x :: rest) true = (some x, rest) := rfl
theorem stepRem_back (init : List Nat) (z : Nat) : stepRem (init ++ [z]) false = (some z, init) :=
  congr (congrArg Prod.mk List.getLast?_concat) List.dropLast_concat

theorem cursorStep_some {c : CacheB} {it : CacheB.Cursors} {nx a : Nat} (front take : Bool)
    (hn : it.next = some nx) (ha : a = if front then nx else it.nextBack) (ho : c.owns a = true) :
    c.cursorStep it front take =
      (c.moveOut take [some a],
       if nx = it.nextBack then ⟨none, it.nextBack⟩
       else if front then ⟨some (c.links a).prev, it.nextBack⟩ else ⟨some nx, (c.links a).next⟩,
       some a) := by
  simp only [CacheB.cursorStep, hn, ← ha, ho, check_true]
  cases take
  · rw [moveOut_false]; rfl
  · simp [CacheB.moveOut]

theorem CurInv.yield {c : CacheB} {rem rem' : List Nat} {it it' : CacheB.Cursors} (h : CurInv c rem it)
    (take : Bool) {a : Nat} (hs : rem'.Sublist rem) (ha : a ∉ rem') (hc : Chain c.links rem')
    (hf : it'.next = rem'.head?) (hb : ∀ z, rem'.getLast? = some z → it'.nextBack = z) :
    CurInv (c.moveOut take [some a]) rem' it' :=
  ⟨hc, h.nodup.sublist hs, fun b hb' => (owns_moveOut fun e : b = a => ha (e ▸ hb')).trans (h.live b (hs.subset hb')), hf, hb⟩

theorem cursorStep_spec {c : CacheB} {rem : List Nat} {it : CacheB.Cursors} (front take : Bool)
    (h : CurInv c rem it) :
    ∃ it', c.cursorStep it front take = (c.moveOut take [(stepRem rem front).1], it', (stepRem rem front).1) ∧
      CurInv (c.moveOut take [(stepRem rem front).1]) (stepRem rem front).2 it' := by
  -- `rem` is empty, a single node, or `x :: mid ++ [z]` with `x ≠ z`
  cases rem with
  | nil =>
    have hn : it.next = none := h.front
    have hm : c.moveOut take [none] = c := by simp [CacheB.moveOut]
    rw [stepRem_nil, hm]
    exact ⟨it, by simp only [CacheB.cursorStep, hn], h⟩
  | cons x rest =>
    have hn : it.next = some x := h.front
    rcases List.eq_nil_or_concat rest with rfl | ⟨mid, z, hr⟩
    · -- the cursors meet: whichever end is asked for, the last node is yielded
      have hz : it.nextBack = x := h.back x rfl
      have hs : stepRem [x] front = (some x, []) := by cases front <;> rfl
      rw [hs]
      refine ⟨_, cursorStep_some front take hn (by rw [hz, ite_self]) (h.live x (.head _)), ?_⟩
      rw [hz, if_pos rfl]
      exact h.yield take (List.nil_sublist _) nofun trivial rfl nofun
    · rw [List.concat_eq_append] at hr; subst hr
      have hz : it.nextBack = z := h.back z (List.getLast?_concat (l := x :: mid))
      have hf := List.nodup_cons.mp h.nodup
      have hb := List.nodup_append.mp (show ((x :: mid) ++ [z]).Nodup from h.nodup)
      have hxz : x ≠ z := fun e => hf.1 (e ▸ List.mem_append_right _ (.head _))
      cases front with
      | true =>
        have hc := chain_cons h.chain
        rw [stepRem_front]
        refine ⟨_, cursorStep_some true take hn rfl (h.live x (.head _)), ?_⟩
        rw [hz, if_neg hxz]
        refine h.yield take (List.sublist_cons_self ..) hf.1 hc.1 ?_ fun w hw => ?_
        · cases mid <;> exact congrArg some (hc.2 _ rfl)
        · exact Option.some.inj (List.getLast?_concat.symm.trans hw)
      | false =>
        have hc := chain_concat (l := x :: mid) h.chain
        rw [show x :: (mid ++ [z]) = (x :: mid) ++ [z] from rfl, stepRem_back]
        refine ⟨_, cursorStep_some false take hn hz.symm (h.live z (List.mem_append_right (x :: mid) (.head _))), ?_⟩
        rw [hz, if_neg hxz]
        exact h.yield take (List.sublist_append_left ..) (fun hm => hb.2.2 z hm z (.head _) rfl) hc.1 rfl hc.2

/-- the calls on the list of addresses -/
def runRem : List Nat → List Bool → List (Option Nat) × List Nat
  | rem, [] => ([], rem)
  | rem, f :: fs =>
    let s := stepRem rem f
    let r := runRem s.2 fs
    (s.1 :: r.1, r.2)

theorem cursorRun_spec (take : Bool) (calls : List Bool) : ∀ {c : CacheB} {rem : List Nat} {it : CacheB.Cursors},
    CurInv c rem it →
    ∃ it', c.cursorRun it calls take = (c.moveOut take (runRem rem calls).1, it', (runRem rem calls).1) ∧
      CurInv (c.moveOut take (runRem rem calls).1) (runRem rem calls).2 it' := by
  induction calls with
  | nil => exact fun {c rem it} h => ⟨it, congrArg (·, it, []) (moveOut_nil c take).symm, (moveOut_nil c take).symm ▸ h⟩
  | cons f fs ih =>
    intro c rem it h
    obtain ⟨it1, e1, h1⟩ := cursorStep_spec f take h
    obtain ⟨it2, e2, h2⟩ := ih h1
    rw [moveOut_moveOut] at e2 h2
    exact ⟨it2, by simp only [CacheB.cursorRun, e1, e2, runRem, List.singleton_append], h2⟩

theorem cursorDrain_spec (fuel : Nat) : ∀ {rem : List Nat} {c : CacheB} {it : CacheB.Cursors},
    CurInv c rem it → rem.length < fuel → (c.cursorDrain fuel it).1 = c.moveOut true (rem.map some) := by
  induction fuel with
  | zero => exact fun _ hf => absurd hf (Nat.not_lt_zero _)
  | succ fuel ih =>
    intro rem c it h hf
    cases rem with
    | nil =>
      have hn : it.next = none := h.front
      simp only [CacheB.cursorDrain, hn, List.map_nil, moveOut_nil]
    | cons x rest =>
      have hn : it.next = some x := h.front
      obtain ⟨it', e, h'⟩ := cursorStep_spec true true h
      simp only [CacheB.cursorDrain, hn, e]
      rw [ih h' (Nat.lt_of_succ_lt_succ hf), moveOut_moveOut]; rfl

theorem stepRem_map (ent : Nat → Entry) (rem : List Nat) (f : Bool) :
    iterStep (rem.map ent) f = ((stepRem rem f).1.map ent, (stepRem rem f).2.map ent) := by
  cases f <;> simp [iterStep, stepRem]

theorem runRem_map (ent : Nat → Entry) (calls : List Bool) : ∀ (rem : List Nat),
    iterCalls (rem.map ent) calls = ((runRem rem calls).1.map (Option.map ent), (runRem rem calls).2.map ent) := by
  induction calls with
  | nil => exact fun _ => rfl
  | cons f fs ih => exact fun rem => by simp only [iterCalls, runRem, stepRem_map, ih, List.map_cons]

theorem Rep.yields {c : CacheB} {l : List Nat} (r : Rep c l) (calls : List Bool) :
    (runRem l calls).1.map (Option.map c.ent) = (iterCalls c.abs.entries calls).1 := by
  rw [r.abs_entries, runRem_map]

theorem runRem_sublist (calls : List Bool) : ∀ (rem : List Nat), (runRem rem calls).2.Sublist rem := by
  induction calls with
  | nil => exact fun _ => .refl _
  | cons f fs ih =>
    refine fun rem => (ih _).trans ?_
    cases f
    · exact List.dropLast_sublist _
    · exact List.tail_sublist _

theorem stepRem_mem (rem : List Nat) (f : Bool) (y : Nat) :
    (some y = (stepRem rem f).1 ∨ y ∈ (stepRem rem f).2) ↔ y ∈ rem := by
  cases f
  · rcases List.eq_nil_or_concat rem with rfl | ⟨init, z, h⟩
    · simp [stepRem_nil]
    · rw [List.concat_eq_append] at h; subst h
      simp [stepRem_back, or_comm]
  · cases rem with
    | nil => simp [stepRem_nil]
    | cons x rest => simp [stepRem_front]

theorem runRem_mem (calls : List Bool) : ∀ (rem : List Nat) (y : Nat),
    (some y ∈ (runRem rem calls).1 ∨ y ∈ (runRem rem calls).2) ↔ y ∈ rem := by
  induction calls with
  | nil => exact fun rem y => by simp [runRem]
  | cons f fs ih => exact fun rem y => by simp only [runRem, List.mem_cons, or_assoc, ih, stepRem_mem]

theorem runRem_sub : ∀ (calls : List Bool) (rem : List Nat) (y : Nat),
    some y ∈ (runRem rem calls).1 ∨ y ∈ (runRem rem calls).2 → y ∈ rem :=
  fun calls rem y => (runRem_mem calls rem y).mp

theorem cursorsNew_inv {c : CacheB} {l : List Nat} (h : RefW c l) :
    CurInv c l c.cursorsNew := by
  have hitems : c.shape.items = l.length := by
    have := h.inv.items
    rwa [h.rep.abs_entries, List.length_map] at this
  rw [CacheB.cursorsNew, hitems]
  cases l with
  | nil => exact ⟨trivial, .nil, nofun, rfl, nofun⟩
  | cons x rest =>
    obtain ⟨e1, e2⟩ := seal_ends h.rep.chain
    rw [e1, e2]
    exact ⟨(chain_concat (chain_cons h.rep.chain.1).1).1, h.rep.nodup, fun a ha => h.rep.owns_mem ha, rfl,
      fun z hz => by rw [hz]; rfl⟩

theorem drainDetach_rep {c : CacheB} {l : List Nat} (r : Rep c l) : Rep c.drainDetach [] :=
  r.toRepM.clearNoDrop 0 rfl (fun a => (if_neg fun h => Nat.not_lt_zero a h.2).symm) rfl rfl r.noUb

/-- the nodes keep their contents and their interior links: the cursors created *before* the detach
still describe the whole (now detached) list -/
theorem drainDetach_cur {c : CacheB} {l : List Nat} (h : RefW c l) :
    CurInv c.drainDetach l c.cursorsNew := by
  have h0 := cursorsNew_inv h
  have hlinks : ∀ a ∈ l, c.drainDetach.links a = c.links a := fun a ha =>
    have hne : a ≠ c.sl := fun e => h.rep.sl_not_mem (e ▸ ha)
    (if_neg hne).trans (if_neg hne)  -- `setPrev` and `setNext` write at the seal only
  refine ⟨?_, h0.nodup, fun a ha => ?_, h0.front, h0.back⟩
  · exact chain_congr_off hlinks h0.chain
  · show ((if c.st a = .full then SlotSt.vacant else c.st a) != .dead && c.has a) = true
    rw [if_pos ((h.rep.full a).mp ha), h.rep.owns a ha]; rfl

/-- Borrowing iterators (`iter`, `keys`, `values`): the cache is not changed at all — so no invalid node
was read, `ub` included — and what is yielded is exactly the Level A sequence of entries. -/
theorem iter_borrowing {p : Params} {c : CacheB} {l : List Nat} (h : RefInv p c l) (kind : IterKind)
    (hk : kind.borrowing = true) (calls : List Bool) (forget : Bool) :
    (c.iterScenario kind calls forget).1 = c ∧
    (c.iterScenario kind calls forget).2.map (Option.map c.ent) = (iterCalls c.abs.entries calls).1 := by
  obtain ⟨it', e, _⟩ := cursorRun_spec false calls (cursorsNew_inv h.toW)
  rw [CacheB.iterScenario, hk, if_pos rfl, e, moveOut_false]
  exact ⟨rfl, h.rep.yields calls⟩

/-- What `iterScenario` does for `drain` and for the owning iterators alike: the calls of a taking
iterator, then its `Drop` (`forget = false`: the rest is consumed) or leak. -/
def CacheB.cursorTake (c : CacheB) (it : CacheB.Cursors) (calls : List Bool) (forget : Bool) (fuel : Nat) :
    CacheB × List (Option Nat) :=
  let r := c.cursorRun it calls true
  (if forget then r.1 else (r.1.cursorDrain fuel r.2.1).1, r.2.2)

theorem cursorTake_spec {c : CacheB} {l : List Nat} {it : CacheB.Cursors} (h : CurInv c l it)
    (calls : List Bool) (forget : Bool) {fuel : Nat} (hf : l.length < fuel) :
    c.cursorTake it calls forget fuel =
      (c.moveOut true ((runRem l calls).1 ++ if forget then [] else (runRem l calls).2.map some),
       (runRem l calls).1) := by
  obtain ⟨it', e, h'⟩ := cursorRun_spec true calls h
  simp only [CacheB.cursorTake, e]
  cases forget
  · rw [if_neg Bool.false_ne_true, if_neg Bool.false_ne_true, cursorDrain_spec _ h'
      (Nat.lt_of_le_of_lt (runRem_sublist calls l).length_le hf), moveOut_moveOut]
  · rw [if_pos rfl, if_pos rfl, List.append_nil]

theorem iterScenario_drain (c : CacheB) (calls : List Bool) (forget : Bool) :
    c.iterScenario .drain calls forget = c.drainDetach.cursorTake c.cursorsNew calls forget (c.table.length + 1) := by
  cases forget <;> rfl

/-- `IntoIter::drop`: consume the rest, `clear_no_drop`, then the cache itself is dropped -/
theorem iterScenario_into {kind : IterKind} (hk : kind.borrowing = false) (hd : kind ≠ .drain)
    (c : CacheB) (calls : List Bool) (forget : Bool) :
    c.iterScenario kind calls forget =
      ((fun X : CacheB => if forget then X else CacheB.dropCache
          { X with table := [], st := fun y => if X.st y = SlotSt.full then .vacant else X.st y })
        (c.cursorTake c.cursorsNew calls forget (c.table.length + 1)).1,
       (c.cursorTake c.cursorsNew calls forget (c.table.length + 1)).2) := by
  unfold CacheB.iterScenario
  rw [hk, if_neg Bool.false_ne_true, if_neg hd]
  cases forget <;> rfl

/-- `drain`: the cache left behind is the empty, well-formed cache from the moment the iterator exists
(so also when the iterator is leaked); a dropped iterator has moved out every entry, a leaked one
exactly those it yielded. -/
theorem iter_drain {p : Params} {c : CacheB} {l : List Nat} (h : RefInv p c l) (calls : List Bool) (forget : Bool) :
    Rep (c.iterScenario .drain calls forget).1 [] ∧
    (c.iterScenario .drain calls forget).1.abs = { c.abs with entries := [], cur := 0, shape := c.shape.cleared } ∧
    (c.iterScenario .drain calls forget).2.map (Option.map c.ent) = (iterCalls c.abs.entries calls).1 ∧
    (∀ a ∈ l, (c.iterScenario .drain calls forget).1.has a =
      (forget && !decide (some a ∈ (c.iterScenario .drain calls forget).2))) := by
  rw [iterScenario_drain, cursorTake_spec (drainDetach_cur h.toW) calls forget (h.rep.length ▸ Nat.lt_succ_self _)]
  have hrep := (drainDetach_rep h.rep).moveOut true
    (ys := (runRem l calls).1 ++ if forget then [] else (runRem l calls).2.map some) nofun
  refine ⟨hrep, hrep.abs_eq.trans rfl, h.rep.yields calls, fun a ha => ?_⟩
  show (!(true && List.contains _ (some a)) && c.has a) = _
  rw [h.rep.owns a ha]
  cases forget
  · simp [(runRem_mem calls l a).mpr ha]
  · simp

/-- Owning iterators (`into_iter`, `into_keys`, `into_values`): no invalid access, neither by the calls
nor by the `Drop` of the iterator; a leaked iterator leaves exactly the un-yielded entries unfreed. -/
theorem iter_into {p : Params} {c : CacheB} {l : List Nat} (h : RefInv p c l) (kind : IterKind)
    (hk : kind.borrowing = false) (hd : kind ≠ .drain) (calls : List Bool) (forget : Bool) :
    (c.iterScenario kind calls forget).1.ub = false ∧
    (c.iterScenario kind calls forget).2.map (Option.map c.ent) = (iterCalls c.abs.entries calls).1 ∧
    (forget = true → ∀ a, (c.iterScenario kind calls forget).1.has a =
      if some a ∈ (c.iterScenario kind calls forget).2 then false else c.has a) ∧
    (forget = false → ∀ a, (c.iterScenario kind calls forget).1.has a = false) := by
  rw [iterScenario_into hk hd, cursorTake_spec (cursorsNew_inv h.toW) calls forget (h.rep.length ▸ Nat.lt_succ_self _)]
  refine ⟨?_, h.rep.yields calls, ?_, ?_⟩
  · cases forget
    · -- `dropCache`'s ownership check ranges over the table, which `clear_no_drop` has just emptied
      show (c.ub || !true) = false
      rw [h.rep.noUb]; rfl
    · exact h.rep.noUb
  · rintro rfl a
    simp [CacheB.moveOut]
  · rintro rfl a
    rfl

end LruMem
