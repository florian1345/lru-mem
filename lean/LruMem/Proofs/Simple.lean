import LruMem.Proofs.Own
/-!
# The simple operations and the capacity operations

Fifteen of the operations act on at most one entry (or, `clear`, on all of them alike): what they do is
said once, as `Simple` (`step_simple`); likewise the four capacity operations, as `Resized` (`step_resized`).
-/
namespace LruMem

def Op.simple : Op → Bool
  | .get _ | .getEntry _ | .touch _ | .peek _ | .peekEntry _ | .contains _ | .remove _ | .removeEntry _
  | .removeLru | .removeMru | .getLru | .peekLru | .peekMru | .debugFmt | .clear => true
  | _ => false

/-- The result of a simple operation: it succeeds without rebuilding the table, hashes at most once
(`evs`), and either leaves the cache as it is, or promotes one entry, or removes one entry — whose key
and value are dropped or handed back —, or empties the cache, dropping everything. -/
inductive Simple (c : Cache) (o : Oracle) : Res → Prop
  | same (out : Out) (evs : List Ev) (hh : hashCount evs ≤ 1) (hg : droppedToks evs ++ out.owned = []) :
      Simple c o { cache := c, out := out, evs := evs }
  | touched (e : Entry) (he : lookup c.entries e.key.id = some e) (out : Out) (evs : List Ev)
      (hh : hashCount evs ≤ 1) (hg : droppedToks evs ++ out.owned = []) :
      Simple c o { cache := { c with entries := touchList c.entries e }, out := out, evs := evs }
  | removed (e : Entry) (he : lookup c.entries e.key.id = some e) (out : Out) (evs : List Ev)
      (hh : hashCount evs ≤ 1) (hg : (droppedToks evs ++ out.owned).Perm [e.key.tok, e.val.tok]) :
      Simple c o { cache := { c with entries := removeId c.entries e.key.id, cur := c.cur - e.size,
                                     shape := c.shape.remove 1 o.tombs }, out := out, evs := evs }
  | cleared : Simple c o (clear c)

theorem Simple.hash_le {c : Cache} {o : Oracle} {r : Res} (hs : Simple c o r) :
    hashCount r.evs ≤ 1 ∧ r.rebuilt = none := by
  cases hs with
  | cleared => exact ⟨hashCount_dropAll _ ▸ Nat.zero_le _, rfl⟩
  | _ => exact ⟨‹_›, rfl⟩

theorem Simple.mem {c : Cache} {o : Oracle} {r : Res} (hs : Simple c o r) {x : Entry} (hx : x ∈ r.cache.entries) :
    x ∈ c.entries := by
  cases hs with
  | same => exact hx
  | touched e he => exact (mem_touchList hx).elim (fun h => h) (· ▸ (lookup_some_mem he).1)
  | removed e he => exact mem_removeId_of hx
  | cleared => cases hx

theorem Simple.cur_le {c : Cache} {o : Oracle} {r : Res} (hs : Simple c o r) : r.cache.cur ≤ c.cur ∧ r.cache.max = c.max := by
  cases hs with
  | removed => exact ⟨Nat.sub_le _ _, rfl⟩
  | cleared => exact ⟨Nat.zero_le _, rfl⟩
  | _ => exact ⟨Nat.le_refl _, rfl⟩

theorem Simple.status {c : Cache} {o : Oracle} {r : Res} (hs : Simple c o r) : r.status = .ok := by
  cases hs <;> rfl

theorem step_simple {p : Params} {c : Cache} {op : Op} (o : Oracle) (hn : (ids c.entries).Nodup)
    (hs : op.simple = true) : Simple c o (step p c op o) := by
  cases op with
  | get id | getEntry id | touch id =>
    -- `simp only [step]` where the cases below `unfold`: Lean derives the equations of `step`'s 26-way match in the first
    -- module that asks for them and every importing module reuses them; asked for here, Spec, Refine2, C04, C05, C13, C14 do not pay again
    simp only [step, get, touch, getEntry]; split
    · rename_i e he; exact .touched e (lookup_key he) _ _ (Nat.le_refl _) rfl
    · exact .same _ _ (Nat.le_refl _) rfl
  | peek id | peekEntry id | contains id => exact .same _ _ (Nat.le_refl _) rfl
  | remove id | removeEntry id =>
    unfold step; simp only [remove, removeEntry]; split
    · rename_i e he
      have hid := (lookup_some_mem he).2
      subst hid
      exact .removed e he _ _ (Nat.le_refl _) (List.Perm.refl _)
    · exact .same _ _ (Nat.le_refl _) rfl
  | removeLru | removeMru =>
    unfold step; simp only [removeLru, removeMru]; split
    · rename_i e he
      -- `remove_ptr` looks the key of the end node up again: with one entry per key it finds that node
      -- (the node is the head for `remove_lru`, the last element for `remove_mru`)
      have hl := lookup_of_mem hn (by first | exact List.mem_of_mem_head? he | exact List.mem_of_getLast? he)
      simp only [removeEntry, hl]
      exact .removed e hl _ _ (Nat.le_refl _) (List.Perm.refl _)
    · exact .same _ _ (Nat.zero_le _) rfl
  | getLru =>
    unfold step; simp only [getLru]; split
    · rename_i e he
      exact .touched e (lookup_of_mem hn (List.mem_of_mem_head? he)) _ _ (Nat.zero_le _) rfl
    · exact .same _ _ (Nat.zero_le _) rfl
  | peekLru | peekMru | debugFmt => exact .same _ _ (Nat.zero_le _) rfl
  | clear => exact .cleared
  | _ => exact Bool.noConfusion hs

/-- The owning iterators other than `drain` fall under the first disjunct: `step` keeps the value of a
cache that is consumed (`getD c`). -/
theorem step_iterate (p : Params) (c : Cache) (kind : IterKind) (calls : List Bool) (forget : Bool) (o : Oracle) :
    (step p c (.iterate kind calls forget) o).cache = c ∨
    (step p c (.iterate kind calls forget) o).cache = (clear c).cache := by
  cases kind with
  | drain => exact .inr rfl
  | _ => exact .inl rfl

theorem iterScenario_owning {kind : IterKind} (hk : kind.borrowing = false) (c : Cache) (calls : List Bool) (forget : Bool) :
    (iterScenario c kind calls forget).evs =
      yieldEvs kind (iterCalls c.entries calls).1 ++ (if forget then [] else dropAllEvs (iterCalls c.entries calls).2) ∧
    (iterScenario c kind calls forget).out = .items kind ((iterCalls c.entries calls).1.map (·.map pairOf)) ∧
    ((iterScenario c kind calls forget).cache.map (·.entries)).getD [] = [] := by
  cases kind with
  | iter | keys | values => cases hk
  | _ => exact ⟨rfl, rfl, rfl⟩

/-- Does `reserve`/`try_reserve(a)` rebuild the table? -/
def reserveMoves (p : Params) (s : Shape) (a : Nat) (o : Oracle) : Bool :=
  !decide (s.items + a > p.usizeMax) && decide (s.capacity < s.items + a) && tableOk p (s.items + a) && o.allocOk

def shrinkMoves (p : Params) (s : Shape) (m : Nat) (o : Oracle) : Bool :=
  decide (s.capacity > Nat.max s.items m) && tableOk p (Nat.max s.items m) && o.allocOk &&
  decide (bucketsFor (Nat.max s.items m) < s.buckets ∧ freshCap (Nat.max s.items m) ≤ s.capacity)

theorem reserve_eq (p : Params) (c : Cache) (a : Nat) (o : Oracle) :
    reserve p c a o =
      if reserveMoves p c.shape a o then
        { cache := (rebuild c (c.shape.items + a)).1, out := .unit, evs := (rebuild c (c.shape.items + a)).2,
          rebuilt := some c.entries.length }
      else { cache := c, out := .unit, evs := [],
             status := if c.shape.items + a > p.usizeMax ∨ c.shape.capacity < c.shape.items + a then .implPanic else .ok } := by
  simp only [reserve, reserveMoves]
  by_cases h1 : c.shape.items + a > p.usizeMax
  · simp [h1]
  · by_cases h2 : c.shape.capacity < c.shape.items + a <;> simp [h1, h2]

theorem tryReserve_eq (p : Params) (c : Cache) (a : Nat) (o : Oracle) :
    tryReserve p c a o =
      if reserveMoves p c.shape a o then
        { cache := (rebuild c (c.shape.items + a)).1, out := .reserveOk, evs := (rebuild c (c.shape.items + a)).2,
          rebuilt := some c.entries.length }
      else { cache := c, evs := [],
             out := if c.shape.items + a > p.usizeMax then .reserveOverflow
               else if c.shape.capacity < c.shape.items + a then
                 (if !tableOk p (c.shape.items + a) then .reserveOverflow else .reserveAlloc)
               else .reserveOk } := by
  simp only [tryReserve, reserveMoves]
  by_cases h1 : c.shape.items + a > p.usizeMax
  · simp [h1]
  by_cases h2 : c.shape.capacity < c.shape.items + a
  · by_cases h3 : tableOk p (c.shape.items + a) = true <;> by_cases h4 : o.allocOk = true <;> simp [h1, h2, h3, h4]
  · simp [h1, h2]

theorem shrinkTo_eq (p : Params) (c : Cache) (m : Nat) (o : Oracle) :
    shrinkTo p c m o =
      if shrinkMoves p c.shape m o then
        { cache := (rebuild c (Nat.max c.shape.items m)).1, out := .unit, evs := (rebuild c (Nat.max c.shape.items m)).2,
          rebuilt := some c.entries.length }
      else { cache := c, out := .unit, evs := [],
             status := if c.shape.capacity > Nat.max c.shape.items m ∧ ¬ (tableOk p (Nat.max c.shape.items m) && o.allocOk) = true
               then .implPanic else .ok } := by
  simp only [shrinkTo, shrinkMoves]
  by_cases h1 : c.shape.capacity > Nat.max c.shape.items m
  · by_cases h3 : (tableOk p (Nat.max c.shape.items m) && o.allocOk) = true <;> simp [h1, h3]
  · simp [h1]

/-- Capacity requests an operation makes explicitly. -/
def explicitReq (c : Cache) : Op → List Nat
  | .reserve a => [c.shape.items + a]
  | .tryReserve a => [c.shape.items + a]
  | .shrinkTo m => [Nat.max c.shape.items m]
  | .shrinkToFit => [Nat.max c.shape.items 0]
  | _ => []

/-- The result of a capacity operation whose request is in `reqs`: the cache as it was — the request
was met already, or has failed, as `out` and `status` say —, or the same entries in a table rebuilt
for the request, every key re-hashed. Nothing is dropped or handed out. (`reqs` is a list because C13
collects the requests of a whole history; one operation makes at most one.) -/
inductive Resized (c : Cache) (reqs : List Nat) : Res → Prop
  | same (out : Out) (st : Status) (ho : out.owned = []) (hs : st = .ok ∨ st = .implPanic) :
      Resized c reqs { cache := c, out := out, evs := [], status := st }
  | rebuilt (n : Nat) (hn : c.shape.items ≤ n) (hr : n ∈ reqs) (out : Out) (ho : out.owned = []) :
      Resized c reqs { cache := (rebuild c n).1, out := out, evs := (rebuild c n).2, rebuilt := some c.entries.length }

theorem Resized.status {c : Cache} {reqs : List Nat} {r : Res} (hr : Resized c reqs r) :
    r.status = .ok ∨ (r.status = .implPanic ∧ r.cache = c) := by
  cases hr with
  | same out st ho hs => exact hs.imp_right fun h => ⟨h, rfl⟩
  | rebuilt => exact Or.inl rfl

theorem Resized.frame {c : Cache} {reqs : List Nat} {r : Res} (hr : Resized c reqs r) :
    (r.cache.entries = c.entries ∧ r.cache.cur = c.cur ∧ r.cache.max = c.max) ∧
    droppedToks r.evs = [] ∧ r.out.owned = [] := by
  cases hr with
  | same out st ho hs => exact ⟨⟨rfl, rfl, rfl⟩, rfl, ho⟩
  | rebuilt n hn hr out ho => exact ⟨⟨rfl, rfl, rfl⟩, dropped_rehash _, ho⟩

theorem Resized.mem {c : Cache} {reqs : List Nat} {r : Res} (hr : Resized c reqs r) {x : Entry}
    (hx : x ∈ r.cache.entries) : x ∈ c.entries :=
  hr.frame.1.1 ▸ hx

theorem reserve_resized (p : Params) (c : Cache) (a : Nat) (o : Oracle) :
    Resized c [c.shape.items + a] (reserve p c a o) := by
  rw [reserve_eq]
  by_cases hm : reserveMoves p c.shape a o = true
  · rw [if_pos hm]; exact .rebuilt _ (Nat.le_add_right ..) (List.mem_singleton_self _) _ rfl
  · rw [if_neg hm]; exact .same _ _ rfl (by split <;> simp)

theorem tryReserve_resized (p : Params) (c : Cache) (a : Nat) (o : Oracle) :
    Resized c [c.shape.items + a] (tryReserve p c a o) := by
  rw [tryReserve_eq]
  by_cases hm : reserveMoves p c.shape a o = true
  · rw [if_pos hm]; exact .rebuilt _ (Nat.le_add_right ..) (List.mem_singleton_self _) _ rfl
  · rw [if_neg hm]
    exact .same _ _ (by simp only [apply_ite Out.owned]; simp only [Out.owned, ite_self]) (Or.inl rfl)

theorem shrinkTo_resized (p : Params) (c : Cache) (m : Nat) (o : Oracle) :
    Resized c [Nat.max c.shape.items m] (shrinkTo p c m o) := by
  rw [shrinkTo_eq]
  by_cases hm : shrinkMoves p c.shape m o = true
  · rw [if_pos hm]; exact .rebuilt _ (Nat.le_max_left ..) (List.mem_singleton_self _) _ rfl
  · rw [if_neg hm]; exact .same _ _ rfl (by split <;> simp)

def Op.resizes : Op → Bool
  | .reserve _ | .tryReserve _ | .shrinkTo _ | .shrinkToFit => true
  | _ => false

theorem step_resized {p : Params} {c : Cache} {op : Op} (o : Oracle) (hs : op.resizes = true) :
    Resized c (explicitReq c op) (step p c op o) := by
  cases op with
  | reserve a => exact reserve_resized p c a o
  | tryReserve a => exact tryReserve_resized p c a o
  | shrinkTo m => exact shrinkTo_resized p c m o
  | shrinkToFit => exact shrinkTo_resized p c 0 o
  | _ => exact Bool.noConfusion hs

end LruMem
