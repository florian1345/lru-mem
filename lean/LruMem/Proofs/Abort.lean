import LruMem.Model.Panic
import LruMem.Proofs.Inv
/-!
# The cache left behind by a panic in user code (Level A)

Whatever operation is running on a cache that satisfies the weak invariant, whichever of its
callbacks panics: the abort state of `Model/Panic.lean` satisfies the weak invariant again
(`abort_invW`). The abort states are the cache itself, a prefix of an eviction loop
(`invW_evictPrefix`), the cache emptied by the reallocation guard, the entry written by the `mutate`
closure but not yet re-accounted (`InvW.map`), or a `retain` walk cut short (`invW_retainAbort`).
-/
namespace LruMem

theorem stepP_done {p : Params} {c : Cache} {op : Op} {o : Oracle} {kind : CbKind} {n : Nat}
    (h : n = 0 ∨ cbCount kind (step p c op o).evs < n) : stepP p c op o kind n = step p c op o :=
  if_pos h

theorem invW_guardEmptied (c : Cache) (n : Nat) : InvW (guardEmptied c n) :=
  invW_cleared { c with shape := c.shape.rebuilt n }

/-- The state after `j - 1` completed evictions of an eviction loop over what is left (`l`) of the
entries once `k` of them are gone. -/
theorem invW_evictPrefix {c : Cache} (h : InvW c) {l : List Entry} {cur k j m t : Nat} (hs : l.Sublist c.entries)
    (hc : cur = sumSizes l) (hk : k + l.length = c.entries.length) (hj : j - 1 ≤ l.length) (hm : k + (j - 1) = m) :
    InvW { c with entries := (evictPrefix l cur j).1, cur := (evictPrefix l cur j).2.1, shape := c.shape.remove m t } :=
  h.sub ((List.drop_sublist _ _).trans hs) (subSizes_take _ _ _ hc) (by
    show m + (l.drop (j - 1)).length = _
    rw [← hm, List.length_drop, Nat.add_assoc, Nat.add_sub_cancel' hj]; exact hk)

theorem cbCount_append (k : CbKind) (a b : List Ev) : cbCount k (a ++ b) = cbCount k a + cbCount k b := by
  simp [cbCount]

theorem cbCount_evictAll_le (k : CbKind) (l : List Entry) : cbCount k (evictAllEvs l) ≤ l.length := by
  induction l with
  | nil => exact Nat.le_refl 0
  | cons e l ih =>
    -- of the three events of an eviction only the hash is a callback, of whatever kind
    have h1 : cbCount k (evictEvs e) ≤ 1 := List.length_filter_le _ [Ev.hash e.key.id]
    rw [evictAllEvs, List.flatMap_cons, cbCount_append, Nat.add_comm]
    exact Nat.add_le_add ih h1

theorem cbCount_eject_le (k : CbKind) (l : List Entry) (cur target : Nat) :
    cbCount k (evictAllEvs (eject l cur target).evicted) ≤ l.length :=
  Nat.le_trans (cbCount_evictAll_le k _) (eject_length l cur target ▸ Nat.le_add_right _ _)

theorem cbCount_mutatePre_le (kind : CbKind) (id : Nat) (v v' : Val) : cbCount kind (mutatePre id v v') ≤ 2 := by
  have h : cbCount kind (if v'.tok = v.tok then [] else [Ev.dropV v.tok]) = 0 := by split <;> rfl
  rw [mutatePre, cbCount_append, cbCount_append, h]
  cases kind <;> exact Nat.le_of_ble_eq_true rfl  -- by evaluation: two size estimates at most

theorem mutate_cb_le (p : Params) (c : Cache) (id : Nat) (f : Val → Val × Nat) (o : Oracle) (kind : CbKind) :
    cbCount kind (mutate p c id f o).evs ≤ 2 + c.entries.length := by
  rcases mutate_cases p c id f o with ⟨-, eq⟩ | ⟨e, d, he, -, -, -, eq⟩ | ⟨e, d, he, -, -, -, eq⟩ | ⟨e, d, he, -, -, eq⟩ <;> rw [eq]
  · exact Nat.le_trans (List.length_filter_le ..) (Nat.le_add_right_of_le (Nat.le_succ 1))
  all_goals
    have h0 := cbCount_mutatePre_le kind id e.val (f e.val).1
    have hpos : 0 < c.entries.length := List.length_pos_of_mem (lookup_some_mem he).1
  · have : cbCount kind [Ev.hash id] ≤ 1 := List.length_filter_le ..
    rw [cbCount_append]; exact Nat.add_le_add h0 (Nat.le_trans this hpos)
  · have := cbCount_eject_le kind (touchList c.entries { e with val := (f e.val).1, size := e.size + d }) (c.cur + d) c.max
    rw [length_touchList ((lookup_some_mem he).2.symm ▸ he)] at this
    show cbCount kind (_ ++ evictAllEvs _) ≤ _
    rw [cbCount_append]; exact Nat.add_le_add h0 this
  · exact Nat.le_trans h0 (Nat.le_add_right ..)

/-- Rewriting entries in place, keys and recorded sizes untouched (the `mutate` closure has written the new value;
nothing is re-accounted yet). -/
theorem InvW.map {c : Cache} (h : InvW c) {g : Entry → Entry} (hg : ∀ x, (g x).key.id = x.key.id ∧ (g x).size = x.size) :
    InvW { c with entries := c.entries.map g } := by
  have hids : ids (c.entries.map g) = ids c.entries := (List.map_map ..).trans (List.map_congr_left fun x _ => (hg x).1)
  have hsum : sumSizes (c.entries.map g) = sumSizes c.entries := by
    induction c.entries with
    | nil => rfl
    | cons x l ih => rw [List.map_cons, sumSizes_cons, sumSizes_cons, ih, (hg x).2]
  exact ⟨hids ▸ h.nodup, h.cur.trans hsum.symm, h.items.trans (List.length_map _).symm, h.room⟩

theorem retainAbortGo_spec (pr : Nat → Key → Val → Bool) (kind : CbKind) (n i : Nat) (l : List Entry) :
    (retainAbortGo pr kind n i l).1.Sublist l ∧
    ((retainAbortGo pr kind n i l).1 ++ (retainAbortGo pr kind n i l).2.1).Perm l ∧
    droppedToks (retainAbortGo pr kind n i l).2.2 = toks (retainAbortGo pr kind n i l).2.1 := by
  induction l generalizing n i with
  | nil => exact ⟨.slnil, .nil, rfl⟩
  | cons e l ih =>
    have stop : (e :: l).Sublist (e :: l) ∧ (e :: l ++ []).Perm (e :: l) := ⟨.refl _, .of_eq (List.append_nil _)⟩
    simp only [retainAbortGo]
    by_cases h1 : kind = .pred ∧ n ≤ 1
    · rw [if_pos h1]; exact ⟨stop.1, stop.2, rfl⟩
    rw [if_neg h1]
    by_cases h2 : pr i e.key e.val = true
    · obtain ⟨a, b, d⟩ := ih (if kind = .pred then n - 1 else n) (i + 1)
      rw [if_pos h2]; exact ⟨a.cons_cons _, b.cons _, d⟩
    rw [if_neg h2]
    by_cases h3 : kind = .hash ∧ n ≤ 1
    · rw [if_pos h3]; exact ⟨stop.1, stop.2, rfl⟩
    · obtain ⟨a, b, d⟩ := ih (n - 1) (i + 1)
      rw [if_neg h3]
      exact ⟨a.cons _, List.perm_middle.trans (b.cons _), by simp [droppedToks, d]⟩

theorem invW_retainAbort {c : Cache} (h : InvW c) (o : Oracle) (kind : CbKind) (n : Nat)
    (pr : Nat → Key → Val → Bool) : InvW (retainAbort c pr o kind n).cache :=
  (h.retained (retainAbortGo_spec pr kind n 0 c.entries).1 (retainAbortGo_spec pr kind n 0 c.entries).2.1 o.tombs).1

theorem invW_insertAbort {p : Params} {c : Cache} (h : InvW c) (k : Key) (v : Val) (o : Oracle) (kind : CbKind)
    (n : Nat) : InvW (insertAbort p c k v o kind n).cache := by
  simp only [insertAbort]
  cases kind <;> try exact h
  by_cases hn : n ≤ 1
  · rw [if_pos hn]; exact h
  rw [if_neg hn]
  have hel := eject_length (removeId c.entries k.id) (c.cur - oldSize (lookup c.entries k.id)) (c.max - entrySize p k v)
  by_cases hj : n - 1 ≤ (eject (removeId c.entries k.id) (c.cur - oldSize (lookup c.entries k.id))
      (c.max - entrySize p k v)).evicted.length
  · rw [if_pos hj]
    exact invW_evictPrefix h (removeId_sublist _ _) (h.cur_removeId k.id)
      (Nat.add_comm _ _ ▸ length_removeId c.entries k.id)
      (Nat.le_trans (Nat.sub_le _ _) (Nat.le_trans hj (hel ▸ Nat.le_add_right _ _))) rfl
  · rw [if_neg hj]; exact invW_guardEmptied _ _

theorem invW_mutateAbort {p : Params} {c : Cache} (hw : InvW c) (id : Nat) (f : Val → Val × Nat) (o : Oracle)
    (kind : CbKind) {n : Nat} (hfire : n ≤ cbCount kind (mutate p c id f o).evs) :
    InvW (mutateAbort p c id f o kind n).cache := by
  cases hl : lookup c.entries id with
  | none => simp only [mutateAbort, hl]; exact hw
  | some e =>
    have written := hw.map (g := fun x => if x.key.id = id then { x with val := (f e.val).1 } else x)
      fun x => by split <;> exact ⟨rfl, rfl⟩
    simp only [mutateAbort, hl]
    cases kind with
    | szV =>
      dsimp only
      by_cases hn : n ≤ 1
      · rw [if_pos hn]; exact hw
      · rw [if_neg hn]; exact written
    | hash =>
      dsimp only
      by_cases hn : n ≤ 1
      · rw [if_pos hn]; exact hw
      rw [if_neg hn]
      -- a re-hash: the second lookup of the overflow branch, or an eviction
      by_cases hgrow : valMemSize p (f e.val).1 > valMemSize p e.val
      · rw [if_pos hgrow]
        by_cases hbig : e.size + (valMemSize p (f e.val).1 - valMemSize p e.val) > c.max
        · rw [if_pos hbig]; exact written
        · have hT := hw.grown hl (f e.val).1 (valMemSize p (f e.val).1 - valMemSize p e.val)
          have hc : n ≤ 2 + c.entries.length := Nat.le_trans hfire (mutate_cb_le p c id f o .hash)
          rw [if_neg hbig]
          exact invW_evictPrefix hT (.refl _) hT.cur (Nat.zero_add _)
            (by rw [← hT.items, hw.items, Nat.sub_sub]; exact Nat.sub_le_of_le_add (Nat.add_comm 2 _ ▸ hc))
            ((Nat.zero_add _).trans (Nat.sub_sub n 1 1))
      · rw [if_neg hgrow]; exact hw
    | _ => exact hw

theorem abort_invW {p : Params} {c : Cache} (hw : InvW c) (op : Op) (o : Oracle) (kind : CbKind) (n : Nat)
    (hu : mutateOk p c op) : InvW (stepP p c op o kind n).cache := by
  have hstep := invW_step op o hw hu
  by_cases hfire : n = 0 ∨ cbCount kind (step p c op o).evs < n
  · rw [stepP_done hfire]; exact hstep
  · unfold stepP
    rw [if_neg hfire]
    simp only [not_or, Nat.not_lt] at hfire
    cases op with
    | insert k v => exact invW_insertAbort hw k v o kind n
    | tryInsert k v =>
      -- only a re-hash inside the growth changes anything: the guard empties the cache
      cases kind
      case hash =>
        simp only [tryInsertAbort]
        split
        · exact hw
        · exact invW_guardEmptied _ _
      all_goals exact hw
    | setMaxSize m =>
      have hc : n ≤ c.entries.length := Nat.le_trans hfire.2 (cbCount_eject_le kind c.entries c.cur m)
      exact invW_evictPrefix hw (.refl _) hw.cur (Nat.zero_add _) (Nat.le_trans (Nat.sub_le _ _) hc) (Nat.zero_add _)
    | reserve | tryReserve | shrinkTo | shrinkToFit => exact invW_guardEmptied _ _
    | retain pr => exact invW_retainAbort hw o kind n pr
    | mutate id f => exact invW_mutateAbort hw id f o kind hfire.2
    -- a lookup, a removal or the clone probe unwinds before anything is written; the rest make no callback
    | get | getEntry | touch | peek | peekEntry | contains | remove | removeEntry => exact hw
    | removeLru | removeMru | cloneProbe => exact hw
    | _ => exact hstep

end LruMem
