import LruMem.Model.MemSize
/-!
# The bulk helpers agree with the element-wise sum (C08), for every type and every list of values

`heapSize`, `heapSizeTup`, `hsDefault` and the exact-size helpers `hsSumExact`, `hsSumExactTup` call each other in a
cycle that Lean compiles by well-founded recursion: they unfold only through `f.eq_def`, and every `simp [f]` first has
to derive the equation lemmas of their overlapping patterns (25 for `heapSize`, the last a catch-all). So the equation
of `f` at given constructors is taken as `f.eq_def ..` (the `match` on the right computes), and where values of the
wrong shape have to be covered too, `rw [f.eq_def]` comes before `cases v`: the wrong shapes are then all `rfl`.
The other functions of the block are outside the cycle (`hsSumIter`, `hsSumIterTup`: structural on the type;
`vsDefault`: on the list; `vsSumIter`, `vsSumExact`: not recursive) and compute: their equations hold by `rfl`, and
asking for `f.eq_def` would only make Lean prove a large unfolding lemma first.
-/
namespace LruMem.MemSize

def comp (k : Nat) : TVal → TVal
  | .tup cs => cs.getD k .unit
  | _ => .unit

/-- sum of the heap sizes of components `i, i+1, …` of one tuple value -/
def compHeap : List Ty → Nat → TVal → Nat
  | [], _, _ => 0
  | t :: ts, i, v => heapSize t (comp i v) + compHeap ts (i + 1) v

def sumOver (f : TVal → Nat) : List TVal → Nat
  | [] => 0
  | v :: vs => f v + sumOver f vs

theorem hsDefault_nil (t : Ty) : hsDefault t [] = 0 := hsDefault.eq_def _ _
theorem hsDefault_cons (t : Ty) (v : TVal) (vs : List TVal) :
    hsDefault t (v :: vs) = heapSize t v + hsDefault t vs := hsDefault.eq_def _ _
theorem vsDefault_nil (t : Ty) : vsDefault t [] = 0 := rfl
theorem vsDefault_cons (t : Ty) (v : TVal) (vs : List TVal) :
    vsDefault t (v :: vs) = valueSize t v + vsDefault t vs := rfl

theorem hsDefault_append (t : Ty) (a b : List TVal) : hsDefault t (a ++ b) = hsDefault t a + hsDefault t b := by
  induction a with
  | nil => rw [List.nil_append, hsDefault_nil, Nat.zero_add]
  | cons v a ih => rw [List.cons_append, hsDefault_cons, hsDefault_cons, ih, Nat.add_assoc]

theorem vsDefault_sized (t : Ty) (h : ∀ v, valueSize t v = t.size) (vs : List TVal) :
    vsDefault t vs = t.size * vs.length := by
  induction vs with
  | nil => exact vsDefault_nil t
  | cons v vs ih => rw [vsDefault_cons, h, ih, List.length_cons, Nat.mul_succ, Nat.add_comm]

/-- Value sizes: for a sized type `size_of * count`, which is the element-wise sum; for unsized types
the helpers *are* the element-wise sum. -/
theorem vs_eq (t : Ty) (vs : List TVal) : vsSumIter t vs = vsDefault t vs ∧ vsSumExact t vs = vsDefault t vs := by
  have sized (h : ∀ v, valueSize t v = t.size) (a : vsSumIter t vs = t.size * vs.length)
      (b : vsSumExact t vs = t.size * vs.length) :
      vsSumIter t vs = vsDefault t vs ∧ vsSumExact t vs = vsDefault t vs := by
    rw [a, b, vsDefault_sized t h]; exact ⟨rfl, rfl⟩
  cases t with
  | strLike | path | slice | userDyn => exact ⟨rfl, rfl⟩
  | _ => exact sized (fun _ => rfl) rfl rfl

theorem sumOver_add (f g : TVal → Nat) (vs : List TVal) :
    sumOver (fun v => f v + g v) vs = sumOver f vs + sumOver g vs := by
  induction vs with
  | nil => rfl
  | cons v vs ih => exact (congrArg (f v + g v + ·) ih).trans (Nat.add_add_add_comm ..)

theorem sumOver_zero (f : TVal → Nat) (h : ∀ v, f v = 0) (vs : List TVal) : sumOver f vs = 0 := by
  induction vs with
  | nil => rfl
  | cons v vs ih => rw [sumOver, h, ih]

theorem hsDefault_eq_sumOver (t : Ty) (vs : List TVal) : hsDefault t vs = sumOver (heapSize t) vs := by
  induction vs with
  | nil => exact hsDefault_nil t
  | cons v vs ih => rw [hsDefault_cons, ih]; rfl

theorem proj_eq (i : Nat) (vs : List TVal) : proj i vs = vs.map (comp i) := rfl

theorem hsDefault_proj (t : Ty) (i : Nat) (vs : List TVal) :
    hsDefault t (proj i vs) = sumOver (fun v => heapSize t (comp i v)) vs := by
  rw [proj_eq]
  induction vs with
  | nil => exact hsDefault_nil t
  | cons v vs ih => rw [List.map_cons, hsDefault_cons, ih]; rfl

theorem heapSize_unit (t : Ty) : heapSize t .unit = 0 := by
  cases t <;> apply heapSize.eq_def

theorem compHeap_unit (ts : List Ty) (i : Nat) (v : TVal) (h : ∀ k, i ≤ k → comp k v = .unit) :
    compHeap ts i v = 0 := by
  induction ts generalizing i with
  | nil => rfl
  | cons t ts ih =>
    rw [compHeap, h i (Nat.le_refl _), heapSize_unit, Nat.zero_add]
    exact ih (i + 1) (fun k hk => h k (Nat.le_of_succ_le hk))

theorem heapSizeTup_eq (ts : List Ty) (cs : List TVal) (i : Nat) :
    heapSizeTup ts (cs.drop i) = compHeap ts i (.tup cs) := by
  induction ts generalizing i with
  | nil => exact heapSizeTup.eq_def _ _
  | cons t ts ih =>
    rcases Nat.lt_or_ge i cs.length with hi | hi
    · rw [List.drop_eq_getElem_cons hi, compHeap, ← ih (i + 1), comp, List.getD_eq_getElem?_getD,
        List.getElem?_eq_getElem hi]
      exact heapSizeTup.eq_def ..
    · rw [List.drop_eq_nil_of_le hi, compHeap_unit]
      · exact heapSizeTup.eq_def _ _
      · intro k hk
        rw [comp, List.getD_eq_getElem?_getD, List.getElem?_eq_none (Nat.le_trans hi hk)]
        rfl

theorem heapSize_tuple (sz : Nat) (ts : List Ty) (v : TVal) : heapSize (.tuple sz ts) v = compHeap ts 0 v := by
  rw [heapSize.eq_def]
  cases v with
  | tup cs => exact heapSizeTup_eq ts cs 0
  | _ => exact (compHeap_unit _ _ _ fun _ _ => rfl).symm

theorem unwrapW_sum (t : Ty) (sz : Nat) (vs : List TVal) :
    hsDefault t (unwrapW vs) = hsDefault (.wrapping sz t) vs := by
  induction vs with
  | nil => rw [hsDefault_nil]; exact hsDefault_nil t
  | cons v vs ih =>
    rw [hsDefault_cons, ← ih, heapSize.eq_def]
    cases v with
    | wrap x => exact hsDefault_cons t x _
    | _ => apply (Nat.zero_add _).symm

theorem unwrapB_sum (t : Ty) (sz : Nat) (vs : List TVal) :
    hsDefault t (unwrapB vs) + vsDefault t (unwrapB vs) = hsDefault (.box sz t) vs := by
  induction vs with
  | nil => simp only [unwrapB, hsDefault_nil, vsDefault_nil]
  | cons v vs ih =>
    rw [hsDefault_cons, ← ih, heapSize.eq_def]
    cases v with
    | box x =>
      simp only [unwrapB, hsDefault_cons, vsDefault_cons]
      exact (Nat.add_add_add_comm ..).trans (congrArg (· + _) (Nat.add_comm ..))
    | _ => apply (Nat.zero_add _).symm

theorem flat_sum (t : Ty) (sz n : Nat) (vs : List TVal)
    (hE : ∀ es, hsSumExact t es = hsDefault t es) :
    hsDefault t (vs.flatMap elemsOf) = hsDefault (.array sz n t) vs := by
  induction vs with
  | nil => rw [hsDefault_nil]; exact hsDefault_nil t
  | cons v vs ih =>
    rw [List.flatMap_cons, hsDefault_append, ih, hsDefault_cons, heapSize.eq_def]
    cases v with
    | seq es => exact congrArg (· + _) (hE es).symm
    | _ => apply congrArg (· + _) (hsDefault_nil t)

theorem slice_array_default (t : Ty) (sz n : Nat) (vs : List TVal) :
    hsDefault (.slice t) vs = hsDefault (.array sz n t) vs := by
  induction vs with
  | nil => rw [hsDefault_nil, hsDefault_nil]
  | cons v vs ih =>
    rw [hsDefault_cons, hsDefault_cons, ih, heapSize.eq_def, heapSize.eq_def (.array sz n t)]
    cases v <;> apply rfl

mutual
theorem hs_eq : ∀ (t : Ty) (vs : List TVal), hsSumIter t vs = hsDefault t vs ∧ hsSumExact t vs = hsDefault t vs
  | .prim _, vs | .strLike, vs => by
    rw [hsDefault_eq_sumOver, sumOver_zero _ fun _ => heapSize.eq_def ..]
    exact ⟨rfl, hsSumExact.eq_def ..⟩
  | .tuple sz ts, vs => by
    rw [hsSumExact.eq_def, hsDefault_eq_sumOver, funext (heapSize_tuple sz ts)]
    exact hs_eq_tup ts 0 vs
  | .wrapping sz t, vs => by
    rw [hsSumExact.eq_def, ← unwrapW_sum]
    exact hs_eq t (unwrapW vs)
  | .array sz n t, vs => by
    rw [hsSumExact.eq_def]
    exact ⟨slice_array_default t sz n vs, (hs_eq t _).2.trans (flat_sum t sz n vs fun es => (hs_eq t es).2)⟩
  | .box sz t, vs => by
    show hsSumIter t (unwrapB vs) + vsSumIter t (unwrapB vs) = _ ∧ _
    simp only [hsSumExact.eq_def (.box sz t), hs_eq t, vs_eq t, unwrapB_sum t sz, and_self]
  | .path, _ | .stringLike _, _ | .cString _, _ | .ref _ _, _ | .slice _, _ | .option _ _, _ | .result _ _ _, _
  | .range2 _ _, _ | .range1 _ _, _ | .lock _ _, _ | .phantom, _ | .vec _ _, _ | .binaryHeap _ _, _
  | .hashSet _ _ _, _ | .hashMap _ _ _ _ _, _ | .user _, _ | .userDyn, _ =>
    ⟨rfl, hsSumExact.eq_def _ _⟩

theorem hs_eq_tup : ∀ (ts : List Ty) (i : Nat) (vs : List TVal),
    hsSumIterTup ts i vs = sumOver (compHeap ts i) vs ∧ hsSumExactTup ts i vs = sumOver (compHeap ts i) vs
  | [], i, vs => by
    rw [sumOver_zero (compHeap [] i) fun _ => rfl]
    exact ⟨rfl, hsSumExactTup.eq_def ..⟩
  | t :: ts, i, vs => by
    have hs : sumOver (compHeap (t :: ts) i) vs =
        sumOver (fun v => heapSize t (comp i v)) vs + sumOver (compHeap ts (i + 1)) vs :=
      (sumOver_add _ _ vs).symm ▸ rfl
    show hsSumIter t (proj i vs) + hsSumIterTup ts (i + 1) vs = _ ∧ _
    simp only [hsSumExactTup.eq_def (t :: ts), hs_eq t, hs_eq_tup ts, hs, hsDefault_proj, and_self]
end

end LruMem.MemSize
