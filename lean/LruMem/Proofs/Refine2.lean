import LruMem.Proofs.Refine
/-!
# Refinement, continued: `remove_lru`/`remove_mru`, `clear`, `retain`, `mutate`, and every step
-/
namespace LruMem
open LruMem.Chain

/-- `remove_ptr` on a listed node looks its key up again and finds that node; Level A does the same. -/
theorem removePtr_refines {c : CacheB} {l1 l2 : List Nat} {x : Nat} (o : Oracle) (h : RefW c (l1 ++ x :: l2)) :
    ∃ l', Rep (match c.find (c.ent x).key.id with
        | some y => (c.check (c.owns x)).removeAt y o.tombs
        | none => c.check false) l' ∧
      (match c.find (c.ent x).key.id with
        | some y => (c.check (c.owns x)).removeAt y o.tombs
        | none => c.check false).abs = (removeEntry c.abs (c.ent x).key.id o).cache := by
  rw [find_agreesW h x List.mem_append_cons_self, h.rep.owns_mem List.mem_append_cons_self, check_true, removeEntry, (h.rep.node h.inv.nodup).1]
  exact ⟨_, removeAt_abs o.tombs h.rep h.inv.nodup⟩

theorem removeLru_refines {c : CacheB} {l : List Nat} (o : Oracle) (h : RefW c l) :
    ∃ l', Rep (c.removeLru o) l' ∧ (c.removeLru o).abs = (removeLru c.abs o).cache := by
  rw [CacheB.removeLru, removeLru, (ends_spec h.rep).1, h.rep.abs_entries]
  cases l with
  | nil => exact ⟨[], h.rep, rfl⟩
  | cons x l2 => exact (removePtr_refines (l1 := []) o h :)  -- compared with the goal once, see `stepB_refinesW`

theorem removeMru_refines {c : CacheB} {l : List Nat} (o : Oracle) (h : RefW c l) :
    ∃ l', Rep (c.removeMru o) l' ∧ (c.removeMru o).abs = (removeMru c.abs o).cache := by
  rw [CacheB.removeMru, removeMru, (ends_spec h.rep).2, mruOf, h.rep.abs_entries]
  rcases List.eq_nil_or_concat l with rfl | ⟨l1, x, rfl⟩
  · exact ⟨[], h.rep, rfl⟩
  · rw [List.concat_eq_append] at h ⊢
    rw [List.getLast?_concat, List.map_append, List.map_singleton, List.getLast?_concat]
    exact removePtr_refines o h

theorem clear_refines {c : CacheB} {l : List Nat} (r : Rep c l) :
    Rep c.clear [] ∧ c.clear.abs = (clear c.abs).cache := by
  have rep' : Rep c.clear [] :=
    r.toRepM.clearNoDrop 0 rfl (fun a => (if_neg fun h => Nat.not_lt_zero a h.2).symm) rfl rfl
      (show (c.ub || !(c.table.all fun a => c.owns a)) = false by rw [r.noUb, r.table_owns]; rfl)
  exact ⟨rep', by rw [rep'.abs_eq]; rfl⟩

/-- Where a `retain` walk stands that has visited and kept `pre`: it ends in `c'` if, of the entries
still to visit, `K` are kept and `R` removed. -/
def WalkTo (c : CacheB) (pre : List Nat) (tomb : Nat) (c' : CacheB) (K R : List Entry) : Prop :=
  ∃ l', Rep c' l' ∧ c'.abs = { c.abs with entries := pre.map c.ent ++ K, cur := subSizes c.abs.cur R,
                                          shape := c.abs.shape.remove R.length tomb }

theorem WalkTo.stop {c : CacheB} {pre cur : List Nat} (tomb : Nat) (r : Rep c (pre ++ cur)) :
    WalkTo c pre tomb c (cur.map c.ent) [] :=
  ⟨_, r, by rw [r.abs_eq, List.map_append]; exact congrArg (Cache.mk _ _ _) (Shape.remove_zero ..).symm⟩

theorem WalkTo.keep {c c' : CacheB} {pre : List Nat} {x tomb : Nat} {K R : List Entry}
    (w : WalkTo c (pre ++ [x]) tomb c' K R) : WalkTo c pre tomb c' (c.ent x :: K) R := by
  obtain ⟨l', r', e⟩ := w
  exact ⟨l', r', by rw [e, List.map_append, List.append_assoc]; rfl⟩

theorem WalkTo.drop {c c' : CacheB} {pre cur : List Nat} {x tomb : Nat} {K R : List Entry}
    (h : RefW c (pre ++ x :: cur)) (w : WalkTo (c.removeAt x tomb) pre (tomb - 1) c' K R) :
    WalkTo c pre tomb c' K (c.ent x :: R) := by
  obtain ⟨l', r', e⟩ := w
  exact ⟨l', r', by rw [e, (removeAt_visit tomb h).2.1, Shape.remove_succ]; rfl⟩

/-- `cur` is still to be visited; the walk's pointer (`tail` in `CacheB.retainGoB`) is at its head, or at the seal. -/
theorem retainGoB_refines (pr : Nat → Key → Val → Bool) (cur : List Nat) :
    ∀ (pre : List Nat) (c : CacheB) (i tomb fuel : Nat), RefW c (pre ++ cur) → cur.length < fuel →
    WalkTo c pre tomb (CacheB.retainGoB pr fuel c ((cur.head?).getD c.sl) i tomb)
      (retainGo (indexPred pr) i (cur.map c.ent)).kept (retainGo (indexPred pr) i (cur.map c.ent)).removed := by
  induction cur with
  | nil =>
    intro pre c i tomb fuel h hf
    obtain ⟨fuel, rfl⟩ := Nat.exists_eq_succ_of_ne_zero (Nat.ne_of_gt (Nat.zero_lt_of_lt hf))
    rw [List.head?_nil, Option.getD_none, CacheB.retainGoB, if_pos rfl]
    exact .stop tomb h.rep
  | cons x cur ih =>
    intro pre c i tomb fuel h hf
    obtain ⟨fuel, rfl⟩ := Nat.exists_eq_succ_of_ne_zero (Nat.ne_of_gt (Nat.zero_lt_of_lt hf))
    have hxs : x ≠ c.sl := fun e => h.rep.sl_not_mem (e ▸ List.mem_append_cons_self)
    have ho := h.rep.owns_mem (a := x) List.mem_append_cons_self
    have hread : c.readable x = true := h.rep.readable_mem (.tail _ List.mem_append_cons_self)
    simp only [List.head?_cons, Option.getD_some, List.map_cons, retainGo, indexPred]
    by_cases hk : pr i (c.ent x).key (c.ent x).val = true
    · have hstep : CacheB.retainGoB pr (fuel + 1) c x i tomb =
          CacheB.retainGoB pr fuel c ((cur.head?).getD c.sl) (i + 1) tomb := by
        simp [CacheB.retainGoB, hxs, ho, check_true, hk, hread, h.rep.prev_of]
      simp only [hstep, hk, ↓reduceIte]
      exact (ih (pre ++ [x]) c (i + 1) tomb fuel (List.append_cons .. ▸ h) (Nat.lt_of_succ_lt_succ hf)).keep
    · obtain ⟨h1, -, hread1, hprev1⟩ := removeAt_visit tomb h
      have hstep : CacheB.retainGoB pr (fuel + 1) c x i tomb =
          CacheB.retainGoB pr fuel (c.removeAt x tomb) ((cur.head?).getD (c.removeAt x tomb).sl) (i + 1) (tomb - 1) := by
        simp [CacheB.retainGoB, hxs, ho, check_true, hk, find_agreesW h x List.mem_append_cons_self, hread1, hprev1]
      simp only [hstep, hk, Bool.false_eq_true, ↓reduceIte]
      exact (ih pre _ (i + 1) (tomb - 1) fuel h1 (Nat.lt_of_succ_lt_succ hf)).drop h

theorem retain_refines {c : CacheB} {l : List Nat} (pr : Nat → Key → Val → Bool) (o : Oracle) (h : RefW c l) :
    ∃ l', Rep (c.retain pr o) l' ∧ (c.retain pr o).abs = (retain c.abs (indexPred pr) 0 o).cache := by
  obtain ⟨l', r', e⟩ := retainGoB_refines pr l [] c 0 o.tombs (c.table.length + 1) h (h.rep.length ▸ Nat.lt_succ_self _)
  -- the walk starts at `seal.prev`, which is the head of `l` (or the seal)
  rw [← (seal_ends h.rep.chain).1] at r' e
  exact ⟨l', r', by simp [CacheB.retain, e, retain, h.rep.abs_entries]⟩

/-- The entry of a listed node is overwritten in place under the same key (and the total with it):
lookups and the structure are as before, and what is listed beside that node is as before. -/
theorem RefW.write {c c' : CacheB} {l1 l2 : List Nat} {x : Nat} (h : RefW c (l1 ++ x :: l2)) {ent' : Nat → Entry}
    {cur' : Nat} (hc : c' = { c with ent := ent', cur := cur' }) (hne : ∀ a, a ≠ x → ent' a = c.ent a)
    (hk : (ent' x).key.id = (c.ent x).key.id) :
    c'.find = c.find ∧ Rep c' (l1 ++ x :: l2) ∧ (ids c'.abs.entries).Nodup ∧
    removeId c'.abs.entries (c'.ent x).key.id = removeId c.abs.entries (c'.ent x).key.id := by
  subst hc
  have hid : ∀ a, (ent' a).key.id = (c.ent a).key.id := fun a => by
    by_cases ha : a = x
    · rw [ha, hk]
    · rw [hne a ha]
  have r' : Rep { c with ent := ent', cur := cur' } (l1 ++ x :: l2) := h.rep.congr rfl rfl rfl rfl rfl rfl rfl
  have hn' : (ids ({ c with ent := ent', cur := cur' } : CacheB).abs.entries).Nodup := by
    have := h.inv.nodup
    rw [h.rep.abs_entries] at this
    rw [r'.abs_entries]
    simpa only [ids, List.map_map, Function.comp_def, hid] using this
  refine ⟨funext fun id => ?_, r', hn', ?_⟩
  · simp only [CacheB.find, hid]
  · rw [(r'.node hn').2, show (ent' x).key.id = _ from hk, (h.rep.node h.inv.nodup).2]
    exact List.map_congr_left fun a ha => hne a ((mem_split_ne h.rep.nodup).mp ha).2

/-- The closure of `mutate` has written the value in place; sizes are not re-accounted yet. -/
theorem RefW.written {c : CacheB} {l1 l2 : List Nat} {x : Nat} (h : RefW c (l1 ++ x :: l2)) (v' : Val) :
    let cw : CacheB := { c with ent := fun y => if y = x then { c.ent y with val := v' } else c.ent y }
    Rep cw (l1 ++ x :: l2) ∧
    cw.abs = { c.abs with entries := c.abs.entries.map fun e =>
                 if e.key.id = (c.ent x).key.id then { e with val := v' } else e } := by
  intro cw
  obtain ⟨-, rw_, -, -⟩ := h.write (c' := cw) rfl (fun a ha => if_neg ha) (by simp)
  refine ⟨rw_, ?_⟩
  rw [rw_.abs_eq, h.rep.abs_eq, List.map_map]
  congr 1
  refine List.map_congr_left fun a ha => ?_
  by_cases hax : a = x
  · simp [cw, hax]
  · -- two listed nodes with the same key are the same node
    have hne : (c.ent a).key.id ≠ (c.ent x).key.id := fun e =>
      hax (Option.some.inj ((find_agreesW h a ha).symm.trans (e ▸ find_agreesW h x List.mem_append_cons_self)))
    simp [cw, hax, hne]

/-- `mutate`, the entry stays: value and recorded size are written in place, the total is set, the
node is promoted. -/
theorem RefW.mutated {c : CacheB} {l1 l2 : List Nat} {x : Nat} (h : RefW c (l1 ++ x :: l2)) (v' : Val) (s' cur' : Nat) :
    let cw : CacheB := { c with ent := fun y => if y = x then { c.ent y with val := v' } else c.ent y }
    let cg : CacheB := { cw with ent := fun y => if y = x then { cw.ent y with size := s' } else cw.ent y, cur := cur' }
    Rep (cg.touchPtr x) (l1 ++ l2 ++ [x]) ∧
    (cg.touchPtr x).abs = { c.abs with entries := touchList c.abs.entries { c.ent x with val := v', size := s' },
                                       cur := cur' } := by
  intro cw cg
  obtain ⟨-, rg, hng, hrg⟩ := h.write (c' := cg) rfl (fun a ha => by simp [cw, ha]) (by simp [cw])
  obtain ⟨rt, et⟩ := touchPtr_abs rg hng
  have hx : cg.ent x = { c.ent x with val := v', size := s' } := by simp [cg, cw]
  exact ⟨rt, by rw [et, touchList, hrg, hx]; rfl⟩

/-- The value has grown by `d` and the entry still fits. -/
theorem RefW.grown {c : CacheB} {l1 l2 : List Nat} {x : Nat} (h : RefW c (l1 ++ x :: l2)) (v' : Val) (d : Nat) :
    let cw : CacheB := { c with ent := fun y => if y = x then { c.ent y with val := v' } else c.ent y }
    let cg : CacheB := { cw with ent := fun y => if y = x then { cw.ent y with size := (c.ent x).size + d } else cw.ent y,
                                 cur := c.cur + d }
    RefW (cg.touchPtr x) (l1 ++ l2 ++ [x]) ∧
    (cg.touchPtr x).abs = { c.abs with entries := touchList c.abs.entries { c.ent x with val := v', size := (c.ent x).size + d },
                                       cur := c.abs.cur + d } := by
  obtain ⟨rt, et⟩ := h.mutated v' ((c.ent x).size + d) (c.cur + d)
  exact ⟨⟨rt, by rw [et]; exact h.inv.grown (h.rep.node h.inv.nodup).1 v' d⟩, et⟩

theorem mutate_refines {p : Params} {c : CacheB} {l : List Nat} (id : Nat) (f : Val → Val × Nat) (o : Oracle)
    (h : RefW c l) :
    ∃ l', Rep (c.mutate p id f o) l' ∧ (c.mutate p id f o).abs = (mutate p c.abs id f o).cache := by
  rcases find_cases h.rep id with ⟨hf, hl⟩ | ⟨x, l1, l2, hf, rfl, rfl⟩
  · exact ⟨l, by simpa [CacheB.mutate, hf] using h.rep, by simp [CacheB.mutate, hf, mutate, hl]⟩
  obtain ⟨hl, hrm⟩ := h.rep.node h.inv.nodup
  have ho := h.rep.owns_mem (a := x) List.mem_append_cons_self
  rw [mutate_eq f o hl]
  simp only [CacheB.mutate, hf, ho, check_true]
  refine refines_ite Res.cache (fun _ => refines_ite Res.cache (fun _ => ?_) fun _ => ?_) fun _ => ?_
  · -- too large: the value is written in place, the lookup of `remove_entry` finds the node again
    obtain ⟨hfw, rw_, hnw, hrw⟩ := h.write
      (ent' := fun y => if y = x then { c.ent y with val := (f (c.ent x).val).1 } else c.ent y) (cur' := c.cur) rfl
      (fun a ha => if_neg ha) (by simp)
    obtain ⟨r', e⟩ := removeAt_abs o.tombs rw_ hnw
    rw [show CacheB.find _ (c.ent x).key.id = some x from hfw ▸ hf]
    exact ⟨_, r', by rw [e, hrw]; simp only [removeEntry, hl, ↓reduceIte]; rfl⟩
  · obtain ⟨ht, et⟩ := h.grown (f (c.ent x).val).1 (valMemSize p (f (c.ent x).val).1 - valMemSize p (c.ent x).val)
    cases c  -- the table of the promoted state then computes: the model's fuel is that of `ejectTo_abs`
    exact et ▸ ejectTo_abs _ o.tombs ht
  · exact ⟨_, h.mutated (f (c.ent x).val).1
      ((c.ent x).size - (valMemSize p (c.ent x).val - valMemSize p (f (c.ent x).val).1))
      (c.cur - (valMemSize p (c.ent x).val - valMemSize p (f (c.ent x).val).1))⟩

/-- operations executed on the cache itself (no cursor object outlives the call) -/
def Op.direct : Op → Bool
  | .iterate .. | .cloneProbe .. => false
  | _ => true

theorem stepB_refinesW {p : Params} {c : CacheB} {l : List Nat} (op : Op) (o : Oracle) (h : RefW c l)
    (hd : op.direct = true) :
    ∃ l', Rep (stepB p c op o) l' ∧ (stepB p c op o).abs = (step p c.abs op o).cache := by
  -- `(… :)`: each lemma is elaborated on its own and compared with the goal once; with the goal as expected type
  -- `step` and `stepB` are unfolded again at every argument
  cases op with
  | insert k v => exact (insert_refines k v o h :)
  | tryInsert k v => exact (tryInsert_refines k v o h :)
  | get id | getEntry id | touch id => exact (getEntry_refines id h :)
  | peek | peekEntry | contains | peekLru | peekMru | debugFmt => exact ⟨l, h.rep, rfl⟩
  | remove id =>
    obtain ⟨l', r, e⟩ := removeEntry_refines id o h
    refine ⟨l', r, e.trans ?_⟩
    simp only [step, remove, removeEntry]
    cases lookup c.abs.entries id <;> rfl
  | removeEntry id => exact (removeEntry_refines id o h :)
  | removeLru => exact (removeLru_refines o h :)
  | removeMru => exact (removeMru_refines o h :)
  | getLru => exact (getLru_refines h :)
  | setMaxSize m => exact (setMaxSize_refines m o h :)
  | reserve a => exact (reserve_refines a o h.rep :)
  | tryReserve a => exact (tryReserve_refines a o h.rep :)
  | shrinkTo m => exact (shrinkTo_refines m o h.rep :)
  | shrinkToFit => exact (shrinkTo_refines 0 o h.rep :)
  | mutate id f => exact (mutate_refines id f o h :)
  | retain pr => exact (retain_refines pr o h :)
  | clear => exact ⟨[], clear_refines h.rep⟩
  | iterate | cloneProbe => cases hd

end LruMem
