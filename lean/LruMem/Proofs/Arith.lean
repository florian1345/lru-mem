import LruMem.Proofs.Inv
import LruMem.Model.Arith
/-!
# The accounting arithmetic never leaves `usize`

The Level A model computes over `Nat`, the code over `usize`. Each group of the sites that
`Model/Arith.lean` lists (`sizeArith`, `insertUncheckedArith`, `ejectArith`, `subArith`) is shown
exact under the facts it needs; `Props/C01b` puts them together per operation.
The list of sites is transcribed from the source by hand (it follows the control flow of
`Model/Abs.lean` line by line); the harness is built with overflow checks on, so an arithmetic site
missing there that can fail shows as a panic of the real code in the `extreme` family.

A statement `∀ a ∈ l, a.ok p` about a list written with `::`, `++` and `if` becomes a conjunction of
inequalities under `simp only` with `forall_mem_ite_iff`, `List.forall_mem_append`/`_cons`/`_singleton`
and `Arith.ok_sub`/`ok_add`.
-/
namespace LruMem

theorem forall_mem_ite_iff {α : Type} {P : α → Prop} {c : Prop} [Decidable c] {l₁ l₂ : List α} :
    (∀ a ∈ if c then l₁ else l₂, P a) ↔ (c → ∀ a ∈ l₁, P a) ∧ (¬ c → ∀ a ∈ l₂, P a) := by
  by_cases h : c
  · rw [if_pos h]; exact ⟨fun H => ⟨fun _ => H, fun hn => absurd h hn⟩, fun H => H.1 h⟩
  · rw [if_neg h]; exact ⟨fun H => ⟨fun hc => absurd hc h, fun _ => H⟩, fun H => H.2 h⟩

theorem Arith.ok_sub {p : Params} {a b : Nat} : (Arith.sub a b).ok p ↔ b ≤ a := Iff.rfl
theorem Arith.ok_add {p : Params} {a b : Nat} : (Arith.add a b).ok p ↔ a + b ≤ p.usizeMax := Iff.rfl

theorem sizeArith_ok {p : Params} (k : Key) (v : Val) (h : entrySize p k v ≤ p.usizeMax) :
    ∀ a ∈ sizeArith p k v, a.ok p :=
  List.forall_mem_cons.mpr ⟨Nat.le_trans (Nat.le_add_right _ _) h, List.forall_mem_singleton.mpr h⟩

/-- `cap` is any bound on the capacity that can still be doubled (the capacity before the removals
that preceded the insertion). -/
theorem insertUncheckedArith_ok {p : Params} (c : Cache) (s : Nat) (o : Oracle) {cap : Nat}
    (hc : c.shape.capacity ≤ cap) (hcap : cap + cap ≤ p.usizeMax) (hs : c.cur + s ≤ p.usizeMax) :
    ∀ a ∈ insertUncheckedArith c s o, a.ok p := by
  simp only [insertUncheckedArith, forall_mem_ite_iff, List.forall_mem_append, List.forall_mem_singleton,
    List.not_mem_nil, false_implies, implies_true, true_and, Arith.ok_add]
  exact ⟨fun _ => Nat.le_trans (Nat.add_le_add hc hc) hcap, hs⟩

theorem ejectArith_ok (p : Params) (l : List Entry) (cur target : Nat) (h : cur = sumSizes l) :
    ∀ a ∈ ejectArith l cur target, a.ok p := by
  induction l generalizing cur with
  | nil => exact List.forall_mem_nil _
  | cons e es ih =>
    subst h
    simp only [ejectArith, forall_mem_ite_iff, List.forall_mem_cons, List.not_mem_nil, false_implies,
      implies_true, and_true, Arith.ok_sub]
    exact fun _ => ⟨Nat.le_add_right _ _, ih _ (Nat.add_sub_cancel_left ..)⟩

theorem subArith_ok (p : Params) (l : List Entry) (cur : Nat) (h : sumSizes l ≤ cur) :
    ∀ a ∈ subArith cur l, a.ok p := by
  induction l generalizing cur with
  | nil => exact List.forall_mem_nil _
  | cons e es ih =>
    exact List.forall_mem_cons.mpr
      ⟨Nat.le_trans (Nat.le_add_right _ _) h, ih _ (Nat.le_sub_of_add_le' h)⟩

/-- The estimates of `mutate` on numbers: `s = k + a + ovh` is the recorded size of an entry whose
value holds `a` bytes on the heap before the closure ran and `b` bytes after it. -/
theorem mutate_sizes_ok {vsz ovh k a b s cur umax : Nat} (hv : vsz ≤ ovh) (hs : s = k + a + ovh)
    (hsc : s ≤ cur) (hcu : cur ≤ umax) (hnew : k + b + ovh ≤ umax) :
    (vsz + a ≤ umax ∧ vsz + b ≤ umax) ∧ (vsz + b > vsz + a → s + (vsz + b - (vsz + a)) ≤ umax) ∧
      vsz + a - (vsz + b) ≤ s := by
  subst hs
  -- the estimate of a value is part of the size of its entry
  have part : ∀ x, vsz + x ≤ k + x + ovh := fun x =>
    Nat.le_trans (Nat.add_le_add_right hv x) (Nat.add_comm x ovh ▸ Nat.add_le_add_right (Nat.le_add_left x k) ovh)
  refine ⟨⟨Nat.le_trans (part a) (Nat.le_trans hsc hcu), Nat.le_trans (part b) hnew⟩, fun hg => ?_,
    Nat.le_trans (Nat.sub_le ..) (part a)⟩
  rw [Nat.add_sub_add_left, size_grow (Nat.le_of_lt (Nat.lt_of_add_lt_add_left hg))]
  exact hnew

end LruMem
