import LruMem.Proofs.Inv
/-!
# Closed forms of the operations under the invariant

What each operation leaves behind and returns, in terms of `need` (the minimal LRU prefix).
-/
namespace LruMem

/-- Outputs that are errors (the operation was rejected or handed the entry back). -/
def Out.isErr : Out → Bool
  | .insTooLarge .. | .tryTooLarge .. | .tryWouldEject .. | .tryOccupied .. | .mutTooLarge ..
  | .reserveOverflow | .reserveAlloc => true
  | _ => false

/-- The entry that a storing operation links at the most-recently-used end when it succeeds. -/
def storedLast (p : Params) (c : Cache) : Op → Option Entry
  | .insert k v => some ⟨k, v, entrySize p k v⟩
  | .tryInsert k v => some ⟨k, v, entrySize p k v⟩
  | .mutate id f => (lookup c.entries id).map fun e => ⟨e.key, (f e.val).1, entrySize p e.key (f e.val).1⟩
  | _ => none

/-- `insert` of a pair that fits the limit: the duplicate key is removed first, then exactly the
minimal LRU prefix of the *others*, then the new entry is linked at the MRU end. -/
theorem insert_spec {p : Params} {c : Cache} (k : Key) (v : Val) (o : Oracle) (h : InvW c)
    (hs : entrySize p k v ≤ c.max) :
    (insert p c k v o).cache.entries =
      (removeId c.entries k.id).drop (need (removeId c.entries k.id) (c.max - entrySize p k v))
        ++ [⟨k, v, entrySize p k v⟩] ∧
    (insert p c k v o).out = .ownVal ((lookup c.entries k.id).map (·.val)) ∧
    (insert p c k v o).cache.max = c.max ∧
    (insert p c k v o).cache.cur =
      sumSizes ((removeId c.entries k.id).drop (need (removeId c.entries k.id) (c.max - entrySize p k v)))
        + entrySize p k v := by
  simp only [insert_eq k v o h hs, insertUnchecked_spec, Cache.madeRoom, eject_eq (h.cur_removeId k.id), and_self]

theorem insert_evicted {p : Params} {c : Cache} (k : Key) (v : Val) (h : InvW c) :
    (eject (removeId c.entries k.id) (c.cur - oldSize (lookup c.entries k.id)) (c.max - entrySize p k v)).evicted =
      (removeId c.entries k.id).take (need (removeId c.entries k.id) (c.max - entrySize p k v)) := by
  rw [eject_eq (h.cur_removeId k.id)]

theorem tryInsert_out (p : Params) (c : Cache) (k : Key) (v : Val) (o : Oracle) :
    (tryInsert p c k v o).out =
      if entrySize p k v > c.max then .tryTooLarge k v (entrySize p k v) c.max
      else if entrySize p k v > c.max - c.cur then .tryWouldEject k v (entrySize p k v) (c.max - c.cur)
      else if (lookup c.entries k.id).isSome then .tryOccupied k v
      else .unit := by
  simp only [tryInsert, apply_ite Res.out]

theorem tryInsert_spec {p : Params} {c : Cache} (k : Key) (v : Val) (o : Oracle)
    (hs : entrySize p k v ≤ c.max - c.cur) (hfree : lookup c.entries k.id = none) :
    (tryInsert p c k v o).cache.entries = c.entries ++ [⟨k, v, entrySize p k v⟩] ∧
    (tryInsert p c k v o).out = .unit ∧
    (tryInsert p c k v o).cache.cur = c.cur + entrySize p k v ∧
    (tryInsert p c k v o).cache.max = c.max := by
  unfold tryInsert
  rw [if_neg (Nat.not_lt.mpr (Nat.le_trans hs (Nat.sub_le _ _))), if_neg (Nat.not_lt.mpr hs),
    if_neg (by rw [hfree]; exact Bool.false_ne_true)]
  obtain ⟨a, b, d, -⟩ := insertUnchecked_spec c ⟨k, v, entrySize p k v⟩ o
  exact ⟨a, rfl, b, d⟩

theorem tryInsert_rejected {p : Params} {c : Cache} (k : Key) (v : Val) (o : Oracle)
    (hr : ¬ (entrySize p k v ≤ c.max - c.cur ∧ lookup c.entries k.id = none)) :
    (tryInsert p c k v o).cache = c ∧ (tryInsert p c k v o).out.isErr = true := by
  unfold tryInsert
  by_cases h1 : entrySize p k v > c.max
  · rw [if_pos h1]; exact ⟨rfl, rfl⟩
  rw [if_neg h1]
  by_cases h2 : entrySize p k v > c.max - c.cur
  · rw [if_pos h2]; exact ⟨rfl, rfl⟩
  rw [if_neg h2]
  by_cases h3 : (lookup c.entries k.id).isSome = true
  · rw [if_pos h3]; exact ⟨rfl, rfl⟩
  · exact absurd ⟨Nat.le_of_not_gt h2, Option.not_isSome_iff_eq_none.mp h3⟩ hr

theorem insert_fresh {p : Params} {c : Cache} (k : Key) (v : Val) (o : Oracle) (hfree : lookup c.entries k.id = none)
    (hfit : c.cur + entrySize p k v ≤ c.max) :
    insert p c k v o =
      { cache := (insertUnchecked c ⟨k, v, entrySize p k v⟩ o).cache, out := .ownVal none,
        evs := [.szK k.tok, .szV v.tok, .hash k.id] ++ (insertUnchecked c ⟨k, v, entrySize p k v⟩ o).evs,
        status := (insertUnchecked c ⟨k, v, entrySize p k v⟩ o).status,
        rebuilt := (insertUnchecked c ⟨k, v, entrySize p k v⟩ o).rebuilt } := by
  simp only [insert, if_neg (Nat.not_lt.mpr (Nat.le_trans (Nat.le_add_left _ _) hfit)), hfree, oldSize, oldCount,
    removeId_of_not_mem (lookup_none_iff.mp hfree), Nat.sub_zero,
    eject_nothing (l := c.entries) (Nat.le_sub_of_add_le hfit), List.length_nil, Nat.add_zero,
    Shape.remove_zero, Bool.false_eq_true, if_false, Option.map_none, List.append_nil, evictAllEvs, List.flatMap_nil]

theorem insert_fresh_entries {p : Params} {c : Cache} (k : Key) (v : Val) (o : Oracle) (h : InvA p c)
    (hfit : entrySize p k v ≤ c.max - c.cur) (hfree : lookup c.entries k.id = none) :
    (insert p c k v o).cache.entries = c.entries ++ [⟨k, v, entrySize p k v⟩] :=
  (congrArg (·.cache.entries) (insert_fresh k v o hfree (Nat.add_le_of_le_sub' h.bound hfit))).trans
    (insertUnchecked_spec _ _ _).1

theorem setMaxSize_spec {c : Cache} (m : Nat) (o : Oracle) (h : InvW c) :
    (setMaxSize c m o).cache.entries = c.entries.drop (need c.entries m) ∧
    (eject c.entries c.cur m).evicted = c.entries.take (need c.entries m) ∧
    (setMaxSize c m o).cache.max = m := by
  simp only [setMaxSize, eject_eq h.cur, and_self]

theorem mutate_overflow_spec {p : Params} {c : Cache} (id : Nat) (f : Val → Val × Nat) (o : Oracle) (h : InvA p c)
    (e : Entry) (he : lookup c.entries id = some e)
    (hbig : entrySize p e.key (f e.val).1 > c.max) :
    (mutate p c id f o).cache.entries = removeId c.entries id ∧
    (mutate p c id f o).out = .mutTooLarge e.key (f e.val).1 (entrySize p e.key e.val)
      (entrySize p e.key (f e.val).1) c.max ∧
    (mutate p c id f o).cache.cur = c.cur - entrySize p e.key e.val ∧
    (mutate p c id f o).cache.max = c.max ∧
    (mutate p c id f o).evs = mutatePre id e.val (f e.val).1 ++ [.hash id] := by
  have hsz := h.sizes e (lookup_some_mem he).1
  -- the entry fitted before, so its value has grown
  have hgrow : valMemSize p (f e.val).1 > valMemSize p e.val := Decidable.by_contra fun hn =>
    Nat.lt_irrefl _ (Nat.lt_of_lt_of_le hbig (Nat.le_trans ((mutate_size h he _).2 hn ▸ Nat.sub_le _ _)
      (Nat.le_trans (h.weak.size_le_cur (lookup_some_mem he).1) h.bound)))
  have hnew := (mutate_size h he (f e.val).1).1 hgrow
  rw [mutate_eq f o he, if_pos hgrow, if_pos (hnew ▸ hbig), removeEntry_found o he, hnew, hsz]
  exact ⟨rfl, rfl, rfl, rfl, rfl⟩

/-- Nothing is evicted: the others and the entry, which has not grown, still fit. -/
theorem mutate_shrink_need {p : Params} {c : Cache} (h : InvA p c) {id : Nat} {e : Entry} (he : lookup c.entries id = some e)
    {v' : Val} (hshrink : ¬ valMemSize p v' > valMemSize p e.val) :
    need (removeId c.entries id) (c.max - entrySize p e.key v') = 0 := by
  have hle : entrySize p e.key v' ≤ e.size := (mutate_size h he v').2 hshrink ▸ Nat.sub_le _ _
  refine need_eq_zero (Nat.le_sub_of_add_le (Nat.le_trans (Nat.add_le_add_left hle _) ?_))
  rw [(removeId_of_lookup he).1, ← h.cur]
  exact h.bound

/-- Grown or not: the same closed form as `insert_spec`. -/
theorem mutate_fits_spec {p : Params} {c : Cache} (id : Nat) (f : Val → Val × Nat) (o : Oracle) (h : InvA p c)
    (e : Entry) (he : lookup c.entries id = some e) (hfit : entrySize p e.key (f e.val).1 ≤ c.max) :
    (mutate p c id f o).cache.entries =
      (removeId c.entries id).drop (need (removeId c.entries id) (c.max - entrySize p e.key (f e.val).1))
        ++ [⟨e.key, (f e.val).1, entrySize p e.key (f e.val).1⟩] ∧
    (mutate p c id f o).out = .mutOk (some (f e.val).2) := by
  by_cases hgrow : valMemSize p (f e.val).1 > valMemSize p e.val
  · -- promoted with its new size, then `set_max_size(max_size)`: the loop never reaches the entry itself
    have hnew := (mutate_size h he (f e.val).1).1 hgrow
    rw [mutate_eq f o he, if_pos hgrow, if_neg (Nat.not_lt.mpr (hnew ▸ hfit))]
    refine ⟨(setMaxSize_spec c.max o (h.weak.grown he _ _)).1.trans ?_, rfl⟩
    simp only [hnew, touchList, (lookup_some_mem he).2]
    exact need_append_fit _ _ c.max hfit
  · rw [mutate_eq f o he, if_neg hgrow, mutate_shrink_need h he hgrow]
    simp only [(mutate_size h he (f e.val).1).2 hgrow, touchList, (lookup_some_mem he).2, List.drop_zero, and_self]

/-- The three storing operations in one statement (for `try_insert` the prefix is empty). -/
theorem step_stores {p : Params} {c : Cache} (op : Op) (o : Oracle) (h : InvA p c) {x : Entry}
    (hst : storedLast p c op = some x) :
    ((step p c op o).out.isErr = true ∧ (step p c op o).cache.entries.Sublist c.entries) ∨
    ((step p c op o).out.isErr = false ∧
      (step p c op o).cache.entries =
        (removeId c.entries x.key.id).drop (need (removeId c.entries x.key.id) (c.max - x.size)) ++ [x]) := by
  cases op with
  | insert k v =>
    cases hst
    simp only [step]
    by_cases hs : entrySize p k v ≤ c.max
    · obtain ⟨a, b, -⟩ := insert_spec k v o h.weak hs
      rw [a, b]; exact .inr ⟨rfl, rfl⟩
    · rw [insert_too_large k v o (Nat.lt_of_not_le hs)]; exact .inl ⟨rfl, .refl _⟩
  | tryInsert k v =>
    cases hst
    simp only [step]
    by_cases hacc : entrySize p k v ≤ c.max - c.cur ∧ lookup c.entries k.id = none
    · obtain ⟨a, b, -⟩ := tryInsert_spec k v o hacc.1 hacc.2
      -- nothing is in the way and everything fits: the minimal prefix is empty
      rw [a, b, removeId_of_not_mem (lookup_none_iff.mp hacc.2),
        need_eq_zero (Nat.le_sub_of_add_le (h.cur ▸ Nat.add_le_of_le_sub' h.bound hacc.1))]
      exact .inr ⟨rfl, rfl⟩
    · obtain ⟨a, b⟩ := tryInsert_rejected k v o hacc
      rw [a, b]; exact .inl ⟨rfl, .refl _⟩
  | mutate id f =>
    cases he : lookup c.entries id with
    | none => simp only [storedLast, he, Option.map_none] at hst; cases hst
    | some e =>
      -- `hst` with `he`: `x` is the mutated entry
      cases (congrArg (Option.map _) he).symm.trans hst
      simp only [step, (lookup_some_mem he).2]
      by_cases hfit : entrySize p e.key (f e.val).1 ≤ c.max
      · obtain ⟨a, b⟩ := mutate_fits_spec id f o h e he hfit
        rw [a, b]; exact .inr ⟨rfl, rfl⟩
      · obtain ⟨a, b, -⟩ := mutate_overflow_spec id f o h e he (Nat.lt_of_not_le hfit)
        rw [a, b]; exact .inl ⟨rfl, removeId_sublist _ _⟩
  | _ => cases hst

end LruMem
