import LruMem.Model.Basic
/-!
# Arithmetic of hashbrown's table sizes (`capacity_to_buckets`, `bucket_mask_to_capacity`)

`n ≤ freshCap n` (a table for `n` holds `n`), and the growth bound
`freshCap (max (2n) 1) < max (4n) 16` behind C13's "capacity stays below max(4·peak len, 16)".
-/
namespace LruMem

theorem nextPow2Go_spec (n : Nat) : ∀ (fuel p : Nat), 0 < p → n ≤ p * 2 ^ fuel →
    n ≤ nextPow2Go n p fuel ∧ (nextPow2Go n p fuel = p ∨ nextPow2Go n p fuel < 2 * n) ∧
    ∃ k, nextPow2Go n p fuel = p * 2 ^ k := by
  intro fuel
  induction fuel with
  | zero => exact fun p _ h => ⟨Nat.mul_one p ▸ h, .inl rfl, 0, (Nat.mul_one p).symm⟩
  | succ f ih =>
    intro p hp h
    by_cases hnp : n ≤ p
    · rw [show nextPow2Go n p (f + 1) = p from if_pos hnp]
      exact ⟨hnp, .inl rfl, 0, (Nat.mul_one p).symm⟩
    · rw [show nextPow2Go n p (f + 1) = nextPow2Go n (2 * p) f from if_neg hnp]
      obtain ⟨a, b, k, hk⟩ := ih (2 * p) (Nat.mul_pos (by decide) hp)
        (by rw [Nat.mul_comm 2 p, Nat.mul_assoc, ← Nat.pow_succ']; exact h)
      have h2 : 2 * p < 2 * n := Nat.mul_lt_mul_of_pos_left (Nat.lt_of_not_le hnp) Nat.two_pos
      refine ⟨a, .inr (b.elim (fun b => Nat.lt_of_le_of_lt (Nat.le_of_eq b) h2) id), k + 1, ?_⟩
      rw [hk, Nat.pow_succ', Nat.mul_comm 2 p, Nat.mul_assoc]

theorem nextPow2_spec (n : Nat) :
    n ≤ nextPow2 n ∧ (nextPow2 n = 1 ∨ nextPow2 n < 2 * n) ∧ ∃ k, nextPow2 n = 2 ^ k := by
  have h := nextPow2Go_spec n n 1 (by decide) (by rw [Nat.one_mul]; exact Nat.le_of_lt Nat.lt_two_pow_self)
  simpa only [nextPow2, Nat.one_mul] using h

theorem pow2_dvd8 {k : Nat} (h : 8 ≤ 2 ^ k) : ∃ m, 2 ^ k = 8 * m := by
  refine Nat.pow_dvd_pow 2 (m := 3) (Nat.lt_of_not_le fun hk => ?_)
  exact absurd (Nat.le_trans h (Nat.pow_le_pow_right (by decide) hk)) (by decide)

/-- `7 * m` is the capacity of a table of `8 * m` buckets. -/
theorem capToBuckets_big {n : Nat} (h : 8 ≤ n) :
    ∃ m, capToBuckets n = 8 * m ∧ n ≤ 7 * m ∧ 7 * m < 2 * n := by
  rw [capToBuckets, if_neg (Nat.not_lt.mpr (Nat.le_trans (by decide) h)), if_neg (Nat.not_lt.mpr h)]
  obtain ⟨hle, hlt, k, hk⟩ := nextPow2_spec (n * 8 / 7)
  obtain ⟨m, hm⟩ := pow2_dvd8 (k := k) (by omega)
  rw [hk, hm] at hle hlt
  exact ⟨m, hk.trans hm, by omega⟩

theorem capToBuckets_pos (n : Nat) : 4 ≤ capToBuckets n := by
  unfold capToBuckets
  split
  · exact Nat.le_refl 4
  · split
    · decide
    · calc 4 ≤ n := Nat.le_of_not_lt ‹_›
        _ ≤ n * 8 / 7 := (Nat.le_div_iff_mul_le (by decide)).mpr (Nat.mul_le_mul_left n (by decide))
        _ ≤ nextPow2 (n * 8 / 7) := (nextPow2_spec _).1

/-- On `Nat`, `0 - 1 = 0` makes the test for the unallocated table redundant. -/
theorem bucketsToCap_eq (b : Nat) : bucketsToCap b = if b ≤ 8 then b - 1 else b / 8 * 7 := by
  by_cases h : b = 0
  · subst h; rfl
  · exact if_neg h

theorem bucketsToCap_le (b : Nat) : bucketsToCap b ≤ b := by
  rw [bucketsToCap_eq]
  split
  · exact Nat.sub_le b 1
  · exact Nat.le_trans (Nat.mul_le_mul_left _ (by decide)) (Nat.div_mul_le_self b 8)

theorem freshCap_big {n : Nat} (h : 8 ≤ n) : n ≤ freshCap n ∧ freshCap n < 2 * n := by
  obtain ⟨m, hm, h1, h2⟩ := capToBuckets_big h
  rw [freshCap, bucketsFor, if_neg (Nat.ne_zero_of_lt h), hm, bucketsToCap_eq, if_neg (by omega),
    Nat.mul_div_cancel_left m (by decide), Nat.mul_comm]
  exact ⟨h1, h2⟩

theorem le_freshCap (n : Nat) : n ≤ freshCap n := by
  rcases Nat.lt_or_ge n 8 with h | h
  · revert n; decide  -- the eight small cases
  · exact (freshCap_big h).1

theorem freshCap_double_lt (n : Nat) : freshCap (Nat.max (2 * n) 1) < Nat.max (4 * n) 16 := by
  rcases Nat.lt_or_ge n 4 with h | h
  · revert n; decide  -- the four small cases
  · have h8 : 8 ≤ 2 * n := Nat.mul_le_mul_left 2 h
    rw [show Nat.max (2 * n) 1 = 2 * n from Nat.max_eq_left (Nat.le_trans (by decide) h8)]
    exact Nat.lt_of_lt_of_le (freshCap_big h8).2
      (Nat.le_trans (Nat.le_of_eq (Nat.mul_assoc 2 2 n).symm) (Nat.le_max_left ..))

theorem freshCap_zero : freshCap 0 = 0 := by decide

theorem bucketsToCap_mono {a b : Nat} (h : a ≤ b) : bucketsToCap a ≤ bucketsToCap b := by
  rw [bucketsToCap_eq, bucketsToCap_eq]
  by_cases hb : b ≤ 8
  · rw [if_pos hb, if_pos (Nat.le_trans h hb)]
    exact Nat.sub_le_sub_right h 1
  · rw [if_neg hb]
    split
    · calc a - 1 ≤ 1 * 7 := Nat.sub_le_sub_right ‹a ≤ 8› 1
        _ ≤ b / 8 * 7 := Nat.mul_le_mul_right 7
          ((Nat.le_div_iff_mul_le (by decide)).mpr (Nat.le_of_lt (Nat.lt_of_not_le hb)))
    · exact Nat.mul_le_mul_right 7 (Nat.div_le_div_right h)

end LruMem
