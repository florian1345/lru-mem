import LruMem.Proofs.Lists
/-!
# The eviction loop `eject_to_target`

With an exact running total the loop terminates and evicts exactly the minimal prefix (`eject_eq`,
`need_min`); whatever the total, it only splits the list (`eject_append`).
-/
namespace LruMem

/-- least `n` with `sumSizes (l.drop n) ≤ t` -/
def need : List Entry → Nat → Nat
  | [], _ => 0
  | e :: es, t => if sumSizes (e :: es) ≤ t then 0 else need es t + 1

theorem need_cons (e : Entry) (es : List Entry) (t : Nat) :
    need (e :: es) t = if e.size + sumSizes es ≤ t then 0 else need es t + 1 := rfl

theorem need_min (l : List Entry) (t : Nat) :
    sumSizes (l.drop (need l t)) ≤ t ∧ ∀ m, m < need l t → ¬ sumSizes (l.drop m) ≤ t := by
  induction l with
  | nil => exact ⟨Nat.zero_le _, fun m hm => absurd hm (Nat.not_lt_zero m)⟩
  | cons e es ih =>
    rw [need_cons]
    by_cases hc : e.size + sumSizes es ≤ t
    · rw [if_pos hc]; exact ⟨hc, fun m hm => absurd hm (Nat.not_lt_zero m)⟩
    · rw [if_neg hc]
      refine ⟨ih.1, fun m hm => ?_⟩
      cases m with
      | zero => exact hc
      | succ k => exact ih.2 k (Nat.lt_of_succ_lt_succ hm)

theorem need_le_length (l : List Entry) (t : Nat) : need l t ≤ l.length := by
  induction l with
  | nil => simp [need]
  | cons e es ih => simp only [need]; split <;> simp <;> omega

theorem need_eq_zero {l : List Entry} {t : Nat} (h : sumSizes l ≤ t) : need l t = 0 := by
  cases l with
  | nil => rfl
  | cons e es => simp only [need]; rw [if_pos h]

theorem need_append_fit (l : List Entry) (x : Entry) (t : Nat) (hx : x.size ≤ t) :
    (l ++ [x]).drop (need (l ++ [x]) t) = l.drop (need l (t - x.size)) ++ [x] := by
  induction l with
  | nil =>
    have : need [x] t = 0 := need_eq_zero (by simpa using hx)
    simp [this]
  | cons a l ih =>
    -- with `x` at the end and target `t`, the loop makes the test it makes without `x` and target `t - x.size`
    simp only [List.cons_append, need_cons, sumSizes_append, sumSizes_cons, sumSizes_nil, Nat.add_zero, ← Nat.add_assoc]
    by_cases hc : a.size + sumSizes l ≤ t - x.size
    · rw [if_pos ((Nat.le_sub_iff_add_le hx).mp hc), if_pos hc]; rfl
    · rw [if_neg fun h => hc ((Nat.le_sub_iff_add_le hx).mpr h), if_neg hc]; exact ih

theorem need_append_last (l : List Entry) (x : Entry) (t : Nat) (hx : x.size ≤ t) :
    need (l ++ [x]) t ≤ l.length := by
  -- what is left is not empty (`need_append_fit`)
  have h := congrArg List.length (need_append_fit l x t hx)
  rw [List.length_drop, List.length_append, List.length_append] at h
  exact Nat.le_of_lt_succ (Nat.lt_of_sub_pos (h ▸ Nat.succ_pos _))

theorem eject_append (l : List Entry) (cur target : Nat) :
    (eject l cur target).evicted ++ (eject l cur target).rest = l := by
  induction l generalizing cur with
  | nil => rfl
  | cons e es ih =>
    simp only [eject]
    split
    · exact congrArg (e :: ·) (ih _)
    · rfl

theorem eject_eq {l : List Entry} {cur : Nat} (h : cur = sumSizes l) (target : Nat) :
    eject l cur target =
      ⟨l.drop (need l target), sumSizes (l.drop (need l target)), l.take (need l target), false⟩ := by
  induction l generalizing cur with
  | nil => simp [eject, h]
  | cons e es ih =>
    simp only [eject, need_cons, h, sumSizes_cons]
    by_cases hc : e.size + sumSizes es ≤ target
    · rw [if_neg (Nat.not_lt.mpr hc), if_pos hc]; rfl
    · rw [if_pos (Nat.lt_of_not_le hc), if_neg hc, ih (Nat.add_sub_cancel_left ..)]; rfl

theorem eject_spec (l : List Entry) (cur target : Nat) (h : cur = sumSizes l) :
    (eject l cur target).diverged = false ∧
    (eject l cur target).cur = sumSizes (eject l cur target).rest ∧
    (eject l cur target).cur ≤ target ∧
    (eject l cur target).evicted ++ (eject l cur target).rest = l := by
  rw [eject_eq h]
  exact ⟨rfl, rfl, (need_min l target).1, List.take_append_drop _ _⟩

theorem eject_rest_sublist (l : List Entry) (cur target : Nat) : (eject l cur target).rest.Sublist l := by
  have := List.sublist_append_right (eject l cur target).evicted (eject l cur target).rest
  rwa [eject_append] at this

theorem eject_length (l : List Entry) (cur target : Nat) :
    (eject l cur target).evicted.length + (eject l cur target).rest.length = l.length := by
  rw [← List.length_append, eject_append]

theorem eject_nothing {l : List Entry} {cur target : Nat} (h : cur ≤ target) :
    eject l cur target = ⟨l, cur, [], false⟩ := by
  cases l with
  | nil => exact congrArg (Ejected.mk [] cur []) (decide_eq_false (Nat.not_lt.mpr h))
  | cons e es => exact if_neg (Nat.not_lt.mpr h)

end LruMem
