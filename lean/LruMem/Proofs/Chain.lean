import LruMem.Model.Ptr
/-!
# The intrusive list as a closed chain (Level B)

Along a path `prev` runs LRU→MRU, `next` MRU→LRU; `seal.prev` = LRU, `seal.next` = MRU.
Two structural lemmas carry every proof: `chain_append` (split a path at a node) and `chain_congr`
(frame: a heap that agrees on `prev` of the non-last and `next` of the non-first path nodes).
`chain_mid` and `LInv.splice` combine them for a segment of the closed path: unlinking a node,
linking one in and moving one are the same argument.
-/
namespace LruMem.Chain

abbrev Heap := Nat → Links

def setPrev (h : Heap) (a v : Nat) : Heap := fun x => if x = a then { h x with prev := v } else h x
def setNext (h : Heap) (a v : Nat) : Heap := fun x => if x = a then { h x with next := v } else h x

@[simp] theorem setPrev_prev (h : Heap) (a v x) : (setPrev h a v x).prev = if x = a then v else (h x).prev :=
  apply_ite Links.prev ..
@[simp] theorem setPrev_next (h : Heap) (a v x) : (setPrev h a v x).next = (h x).next :=
  (apply_ite Links.next ..).trans (ite_self _)
@[simp] theorem setNext_next (h : Heap) (a v x) : (setNext h a v x).next = if x = a then v else (h x).next :=
  apply_ite Links.next ..
@[simp] theorem setNext_prev (h : Heap) (a v x) : (setNext h a v x).prev = (h x).prev :=
  (apply_ite Links.prev ..).trans (ite_self _)

def Chain (h : Heap) : List Nat → Prop
  | a :: b :: rest => (h a).prev = b ∧ (h b).next = a ∧ Chain h (b :: rest)
  | _ => True

@[simp] theorem chain_nil (h) : Chain h [] := trivial
@[simp] theorem chain_single (h a) : Chain h [a] := trivial
@[simp] theorem chain_cons2 (h a b rest) :
    Chain h (a :: b :: rest) ↔ (h a).prev = b ∧ (h b).next = a ∧ Chain h (b :: rest) := Iff.rfl

theorem chain_append (h : Heap) (X : List Nat) (a : Nat) (Y : List Nat) :
    Chain h (X ++ a :: Y) ↔ Chain h (X ++ [a]) ∧ Chain h (a :: Y) := by
  induction X with
  | nil => simp
  | cons x xs ih =>
    cases xs with
    | nil => cases Y <;> simp [and_assoc]
    | cons x' xs' =>
      simp only [List.cons_append, chain_cons2] at ih ⊢
      rw [ih, and_assoc, and_assoc]

theorem chain_cons {h : Heap} {x : Nat} {l : List Nat} (hc : Chain h (x :: l)) :
    Chain h l ∧ ∀ y, l.head? = some y → (h x).prev = y := by
  cases l with
  | nil => exact ⟨trivial, nofun⟩
  | cons b l => exact ⟨hc.2.2, fun y hy => Option.some.inj hy ▸ hc.1⟩

theorem chain_concat {h : Heap} {z : Nat} {l : List Nat} (hc : Chain h (l ++ [z])) :
    Chain h l ∧ ∀ w, l.getLast? = some w → (h z).next = w := by
  rcases List.eq_nil_or_concat l with rfl | ⟨l', w, hl⟩
  · exact ⟨trivial, nofun⟩
  · rw [List.concat_eq_append] at hl; subst hl
    rw [List.append_assoc, List.singleton_append, chain_append] at hc
    exact ⟨hc.1, fun w' hw => by rw [List.getLast?_concat] at hw; exact Option.some.inj hw ▸ hc.2.2.1⟩

theorem chain_congr (h h' : Heap) (P : List Nat)
    (hp : ∀ x ∈ P.dropLast, (h' x).prev = (h x).prev)
    (hn : ∀ x ∈ P.tail, (h' x).next = (h x).next) :
    Chain h P → Chain h' P := by
  induction P with
  | nil => exact id
  | cons a t ih =>
    cases t with
    | nil => exact id
    | cons b rest =>
      exact fun ⟨h1, h2, h3⟩ => ⟨(hp a (.head _)).trans h1, (hn b (.head _)).trans h2,
        ih (fun x hx => hp x (.tail _ hx)) (fun x hx => hn x (.tail _ hx)) h3⟩

/-- EntryPtr::unhinge as in entry.rs:222-228 -/
def unhinge (h : Heap) (x : Nat) : Heap :=
  let p := (h x).prev
  let n := (h x).next
  setPrev (setNext h p n) n p

/-- EntryPtr::insert(prev, next) as in entry.rs:230-239 -/
def insertBetween (h : Heap) (x p n : Nat) : Heap :=
  let h1 := setNext h p x
  let h2 := setPrev h1 n x
  let h3 := setNext h2 x n
  setPrev h3 x p

def LInv (h : Heap) (s : Nat) (l : List Nat) : Prop :=
  Chain h (s :: l ++ [s]) ∧ (s :: l).Nodup

/-! In `s :: (l1 ++ (m ++ l2)) ++ [s]` the segment `m` lies between `l1.getLast?.getD s` (the last node
of `s :: l1`) and `l2.head?.getD s` (the first node of `l2 ++ [s]`). -/

theorem getLastD_mem (s : Nat) (l : List Nat) : l.getLast?.getD s ∈ s :: l :=
  List.getLastD_eq_getLast? ▸ List.getLastD_mem_cons

theorem headD_mem (s : Nat) (l : List Nat) : l.head?.getD s ∈ s :: l := by
  cases l <;> simp

theorem chain_mid (h : Heap) (m l2 : List Nat) (t : Nat) (l1 : List Nat) (s : Nat) :
    Chain h (s :: (l1 ++ (m ++ l2)) ++ [t]) ↔
      Chain h (s :: l1) ∧ Chain h (l1.getLast?.getD s :: m ++ [l2.head?.getD t]) ∧ Chain h (l2 ++ [t]) := by
  induction l1 generalizing s with
  | nil =>
    cases l2 with
    | nil => simp
    | cons c l2 => simpa using chain_append h (s :: m) c (l2 ++ [t])
  | cons c l1 ih =>
    have ih := ih c
    simp only [List.cons_append, chain_cons2, List.getLast?_cons, Option.getD_some] at ih ⊢
    rw [ih, and_assoc, and_assoc]

/-- For `m = [x]` these are the four link equations of `x`, for `m = []` those of a gap. -/
theorem LInv.mid {h : Heap} {s : Nat} {l1 m l2 : List Nat} (hinv : LInv h s (l1 ++ (m ++ l2))) :
    Chain h (l1.getLast?.getD s :: m ++ [l2.head?.getD s]) :=
  ((chain_mid h m l2 s l1 s).mp hinv.1).2.1

theorem LInv.neighbours {h : Heap} {s x : Nat} {l1 l2 : List Nat} (hinv : LInv h s (l1 ++ x :: l2)) :
    (h x).prev ∈ s :: (l1 ++ x :: l2) ∧ (h x).next ∈ s :: (l1 ++ x :: l2) ∧
    (h x).next ∈ s :: l1 ∧ (h x).prev ∈ l2 ++ [s] := by
  obtain ⟨-, hxa, hxb, -⟩ := hinv.mid (m := [x])
  have hn := hxa ▸ getLastD_mem s l1
  have hp := hxb ▸ headD_mem s l2
  exact ⟨List.cons_subset_cons s (fun _ h => List.mem_append_right _ (List.mem_cons_of_mem _ h)) hp,
    List.mem_append_left _ hn, hn, (List.perm_append_singleton ..).mem_iff.mpr hp⟩

theorem LInv.neighbours_ne {h : Heap} {s x : Nat} {l1 l2 : List Nat} (hinv : LInv h s (l1 ++ x :: l2)) :
    (h x).next ≠ x ∧ (h x).prev ≠ x := by
  obtain ⟨-, -, hn, hp⟩ := hinv.neighbours
  obtain ⟨-, h2, hd⟩ := List.nodup_append.mp (show ((s :: l1) ++ x :: l2).Nodup from hinv.2)
  refine ⟨hd _ hn x (List.mem_cons_self ..), fun e => ?_⟩
  rcases List.mem_append.mp (e ▸ hp) with h | h
  · exact (List.nodup_cons.mp h2).1 h
  · exact hd s (List.mem_cons_self ..) x (List.mem_cons_self ..) (List.mem_singleton.mp h).symm

/-- Replacing the segment `m` of the list by `m'` (unlinking a node: `m = [x]`, `m' = []`; linking one
in: `m = []`, `m' = [x]`; moving one: `m = [x]`, `m' = [x']`).
The two premises of `hm` follow from `hnd`; they are handed to the caller, who needs them there. -/
theorem LInv.splice {h h' : Heap} {s : Nat} {l1 m m' l2 : List Nat}
    (hinv : LInv h s (l1 ++ (m ++ l2))) (hnd : (s :: (l1 ++ (m' ++ l2))).Nodup)
    (hp : ∀ y, y ≠ l1.getLast?.getD s → y ∉ m' → (h' y).prev = (h y).prev)
    (hn : ∀ y, y ≠ l2.head?.getD s → y ∉ m' → (h' y).next = (h y).next)
    (hm : l1.getLast?.getD s ∉ m' → l2.head?.getD s ∉ m' →
      Chain h' (l1.getLast?.getD s :: m' ++ [l2.head?.getD s])) :
    LInv h' s (l1 ++ (m' ++ l2)) := by
  -- cut open at the segment, the cycle is the path `l2 ++ s :: l1`: `prev` changes at its last node only,
  -- `next` at its first
  obtain ⟨hP, -, hQ⟩ := (chain_mid h m l2 s l1 s).mp hinv.1
  obtain ⟨-, hndR, hd⟩ := List.nodup_append.mp
    (List.append_assoc .. ▸ List.perm_append_comm.nodup_iff.mp hnd : (m' ++ (l2 ++ s :: l1)).Nodup)
  have hoff : ∀ y ∈ l2 ++ s :: l1, y ∉ m' := fun y hy hym => hd y hym y hy rfl
  have ha : (l2 ++ s :: l1).getLast? = some (l1.getLast?.getD s) := by
    rw [List.getLast?_append, List.getLast?_cons]; rfl
  have hb : (l2 ++ s :: l1).head? = some (l2.head?.getD s) := by cases l2 <;> rfl
  have hR : Chain h' (l2 ++ s :: l1) := by
    refine chain_congr h h' _ (fun y hy => hp y ?_ (hoff y (List.dropLast_subset _ hy)))
      (fun y hy => hn y ?_ (hoff y (List.mem_of_mem_tail hy))) ((chain_append h l2 s l1).mpr ⟨hQ, hP⟩)
    · obtain ⟨d, hd⟩ := List.getLast?_eq_some_iff.mp ha
      rw [hd, List.dropLast_concat] at hy
      exact (List.nodup_append.mp (hd ▸ hndR)).2.2 y hy _ (List.mem_singleton_self _)
    · obtain ⟨t, ht⟩ := List.head?_eq_some_iff.mp hb
      rw [ht] at hy hndR
      exact fun e => (List.nodup_cons.mp hndR).1 (e ▸ hy)
  obtain ⟨hQ', hP'⟩ := (chain_append h' l2 s l1).mp hR
  exact ⟨(chain_mid h' m' l2 s l1 s).mpr
    ⟨hP', hm (hoff _ (List.mem_of_getLast? ha)) (hoff _ (List.mem_of_head? hb)), hQ'⟩, hnd⟩

theorem chain_congr_off {h h' : Heap} {P : List Nat} (hagree : ∀ x ∈ P, h' x = h x) (hc : Chain h P) : Chain h' P :=
  chain_congr h h' P (fun x hx => by rw [hagree x (List.dropLast_subset _ hx)])
    (fun x hx => by rw [hagree x (List.mem_of_mem_tail hx)]) hc

theorem linv_congr_off {h h' : Heap} {s : Nat} {l : List Nat} (hinv : LInv h s l)
    (hagree : ∀ a, a ∈ s :: l → h' a = h a) : LInv h' s l :=
  ⟨chain_congr_off (fun x hx => hagree x ((List.mem_append.mp hx).elim id fun hx =>
    List.mem_singleton.mp hx ▸ List.mem_cons_self ..)) hinv.1, hinv.2⟩

theorem seal_ends {h : Heap} {s : Nat} {l : List Nat} (hinv : LInv h s l) :
    (h s).prev = (l.head?).getD s ∧ (h s).next = (l.getLast?).getD s :=
  ⟨(hinv.mid (l1 := []) (m := [])).1,
    (LInv.mid (m := []) (l2 := []) ((List.append_nil l).symm ▸ hinv)).2.1⟩

theorem unhinge_inv (h : Heap) (s : Nat) (l1 l2 : List Nat) (x : Nat)
    (hinv : LInv h s (l1 ++ x :: l2)) : LInv (unhinge h x) s (l1 ++ l2) := by
  obtain ⟨-, hxa, hxb, -⟩ := hinv.mid (m := [x])
  refine hinv.splice (m := [x]) (m' := []) (hinv.2.sublist ?_) (fun y hy _ => ?_) (fun y hy _ => ?_)
    (fun _ _ => ?_)
  · exact ((List.sublist_cons_self x l2).append_left l1).cons_cons s
  · simp only [unhinge, hxa, setPrev_prev, setNext_prev, if_neg hy]
  · simp only [unhinge, hxb, setPrev_next, setNext_next, if_neg hy]
  · simp [unhinge, hxa, hxb]

/-- `set_head`: `x` goes between the seal and `seal.next` and becomes the MRU = last element. -/
theorem setHead_inv (h : Heap) (s : Nat) (l : List Nat) (x : Nat)
    (hinv : LInv h s l) (hx : x ∉ s :: l) :
    LInv (insertBetween h x s (h s).next) s (l ++ [x]) := by
  have hsa := (seal_ends hinv).2
  refine LInv.splice (m := []) (m' := [x]) ((List.append_nil l).symm ▸ hinv) ?_
    (fun y hy hyx => ?_) (fun y (hy : y ≠ s) hyx => ?_) (fun hax (hsx : s ∉ [x]) => ?_)
  · exact (List.perm_append_singleton x (s :: l)).nodup_iff.mpr (List.nodup_cons.mpr ⟨hx, hinv.2⟩)
  · simp [insertBetween, hsa, hy, List.ne_of_not_mem_cons hyx]
  · simp [insertBetween, hy, List.ne_of_not_mem_cons hyx]
  · simp [insertBetween, hsa, List.ne_of_not_mem_cons hax, List.ne_of_not_mem_cons hsx]

theorem walkPrev_chain (h : Heap) (s : Nat) (l : List Nat) (a : Nat)
    (hc : Chain h (a :: l ++ [s])) (hs : s ∉ l) :
    CacheB.walkPrev h s l.length (h a).prev = l := by
  induction l generalizing a with
  | nil => rfl
  | cons b l ih =>
    obtain ⟨h1, -, h3⟩ := hc
    rw [List.mem_cons, not_or] at hs
    simp only [List.length_cons, CacheB.walkPrev, h1, if_neg (Ne.symm hs.1)]
    rw [ih b h3 hs.2]

theorem walkPrev_eq (h : Heap) (s : Nat) (l : List Nat) (hinv : LInv h s l) :
    CacheB.walkPrev h s l.length (h s).prev = l :=
  walkPrev_chain h s l s hinv.1 (List.nodup_cons.mp hinv.2).1

theorem walkNext_chain (h : Heap) (s : Nat) (r : List Nat) (a : Nat)
    (hc : Chain h (s :: r.reverse ++ [a])) (hs : s ∉ r) :
    CacheB.walkNext h s r.length (h a).next = r := by
  induction r generalizing a with
  | nil => rfl
  | cons b r ih =>
    rw [List.reverse_cons, ← List.cons_append, List.append_assoc, List.singleton_append, chain_append] at hc
    obtain ⟨hA, -, hba, -⟩ := hc
    rw [List.mem_cons, not_or] at hs
    simp only [List.length_cons, CacheB.walkNext, hba, if_neg (Ne.symm hs.1)]
    rw [ih b hA hs.2]

theorem walkNext_eq (h : Heap) (s : Nat) (l : List Nat) (hinv : LInv h s l) :
    CacheB.walkNext h s l.length (h s).next = l.reverse := by
  have := walkNext_chain h s l.reverse s (by rw [List.reverse_reverse]; exact hinv.1)
    (fun hm => (List.nodup_cons.mp hinv.2).1 (List.mem_reverse.mp hm))
  rwa [List.length_reverse] at this

/-- `move_to_table`, one entry: copy the node to `x'`, then `prev_entry.next = x'`,
`next_entry.prev = x'`. -/
def moveLinks (h : Heap) (x x' : Nat) : Heap :=
  setPrev (setNext (fun y => if y = x' then h x else h y) (h x).prev x') (h x).next x'

theorem move_inv (h : Heap) (s : Nat) (l1 l2 : List Nat) (x x' : Nat)
    (hinv : LInv h s (l1 ++ x :: l2)) (hx' : x' ∉ s :: (l1 ++ x :: l2)) :
    LInv (moveLinks h x x') s (l1 ++ x' :: l2) := by
  obtain ⟨-, hxa, hxb, -⟩ := hinv.mid (m := [x])
  have hsub : (s :: (l1 ++ l2)).Sublist (s :: (l1 ++ x :: l2)) :=
    ((List.sublist_cons_self x l2).append_left l1).cons_cons s
  refine hinv.splice (m := [x]) (m' := [x']) ?_ (fun y hy hyx => ?_) (fun y hy hyx => ?_)
    (fun hax hbx => ?_)
  · exact (List.perm_middle (l₁ := s :: l1)).nodup_iff.mpr
      (List.nodup_cons.mpr ⟨fun hm => hx' (hsub.subset hm), hinv.2.sublist hsub⟩)
  · simp [moveLinks, hxa, hy, List.ne_of_not_mem_cons hyx]
  · simp [moveLinks, hxb, hy, List.ne_of_not_mem_cons hyx]
  · simp [moveLinks, hxa, hxb, (List.ne_of_not_mem_cons hax).symm, (List.ne_of_not_mem_cons hbx).symm]

end LruMem.Chain
