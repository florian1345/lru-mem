import LruMem.Proofs.Simple
import LruMem.Proofs.Hashbrown
/-!
# The Level A invariants and their preservation by every operation

`InvA` is `InvW` plus "the recorded sizes are the `entry_size`s" and the bound. The contents change in
three ways only — entries leave (`InvW.sub`), one with a new key is linked at the MRU end (`InvW.push`),
one is promoted, possibly with a new value and size (`InvW.touch`) — and every operation is handled once
for `InvW` through these; for `InvA` it remains to look at the entries that are new and at the total.
-/
namespace LruMem

/-- The structural invariant of a cache at Level A. -/
structure InvA (p : Params) (c : Cache) : Prop where
  /-- at most one entry per key -/
  nodup : (ids c.entries).Nodup
  /-- the size recorded in each entry is `entry_size(key, value)` -/
  sizes : ∀ e ∈ c.entries, e.size = entrySize p e.key e.val
  /-- the running total is the sum of the recorded sizes -/
  cur : c.cur = sumSizes c.entries
  /-- the memory bound -/
  bound : c.cur ≤ c.max
  /-- the table holds exactly the listed entries -/
  items : c.shape.items = c.entries.length
  /-- hashbrown's accounting: items + growth_left (+ tombstones) = full capacity of the buckets -/
  room : c.shape.items + c.shape.growthLeft ≤ bucketsToCap c.shape.buckets

/-- What C16 promises of the cache after an unwind. -/
structure InvW (c : Cache) : Prop where
  nodup : (ids c.entries).Nodup
  cur : c.cur = sumSizes c.entries
  items : c.shape.items = c.entries.length
  room : c.shape.items + c.shape.growthLeft ≤ bucketsToCap c.shape.buckets

theorem InvA.weak {p : Params} {c : Cache} (h : InvA p c) : InvW c := ⟨h.nodup, h.cur, h.items, h.room⟩

theorem InvW.strong {p : Params} {c : Cache} (h : InvW c) (hs : ∀ e ∈ c.entries, e.size = entrySize p e.key e.val)
    (hb : c.cur ≤ c.max) : InvA p c := ⟨h.nodup, hs, h.cur, hb, h.items, h.room⟩

theorem Shape.remove_items (s : Shape) (k t : Nat) : (s.remove k t).items = s.items - k := rfl

theorem Shape.remove_zero (s : Shape) (t : Nat) : s.remove 0 t = s := by
  simp [Shape.remove]

/-- Removing one by one with a dwindling tombstone budget is the bulk accounting of Level A. -/
theorem Shape.remove_succ (s : Shape) (k t : Nat) : (s.remove 1 t).remove k (t - 1) = s.remove (k + 1) t := by
  -- field by field it is linear arithmetic over `min t 1`, `min (t - 1) k`, `min t (k + 1)`; with `t` split the `min`s
  -- compute and rewriting closes it (`omega` on the three `min`s is much slower)
  cases t with
  | zero => simp only [Shape.remove, Nat.zero_min, Nat.sub_zero, Nat.zero_sub, Nat.sub_sub, Nat.add_assoc, Nat.add_comm 1 k]
  | succ t =>
    simp only [Shape.remove, Nat.add_sub_cancel, Nat.succ_min_succ, Nat.sub_sub, Nat.add_comm 1 k, Nat.min_zero,
      Nat.succ_eq_add_one, Nat.sub_self, Nat.add_zero, Nat.add_sub_add_right]

theorem Shape.remove_add (s : Shape) (j k t : Nat) : (s.remove j t).remove k (t - j) = s.remove (j + k) t := by
  induction j generalizing s t with
  | zero => rw [Shape.remove_zero, Nat.sub_zero, Nat.zero_add]
  | succ j ih =>
    rw [← Shape.remove_succ s j t, Nat.add_comm j 1, ← Nat.sub_sub, ih, Nat.add_assoc, Nat.add_comm 1, Shape.remove_succ]

theorem Shape.remove_capacity_le (s : Shape) (k t : Nat) (hk : k ≤ s.items) :
    (s.remove k t).capacity ≤ s.capacity := by
  show s.items - k + (s.growthLeft + (k - min t k)) ≤ s.items + s.growthLeft
  rw [Nat.add_left_comm, Nat.add_comm s.items]
  exact Nat.add_le_add_left (Nat.le_trans (Nat.add_le_add_left (Nat.sub_le _ _) _) (Nat.le_of_eq (Nat.sub_add_cancel hk))) _

theorem Shape.remove_room {s : Shape} (k t : Nat) (hk : k ≤ s.items)
    (h : s.items + s.growthLeft ≤ bucketsToCap s.buckets) :
    (s.remove k t).items + (s.remove k t).growthLeft ≤ bucketsToCap (s.remove k t).buckets :=
  Nat.le_trans (s.remove_capacity_le k t hk) h

theorem Shape.inserted_ok {s : Shape} {reuse : Bool} (hc : s.canInsert reuse = true)
    (h : s.items + s.growthLeft ≤ bucketsToCap s.buckets) :
    (s.inserted reuse).items + (s.inserted reuse).growthLeft ≤ bucketsToCap (s.inserted reuse).buckets := by
  show s.items + 1 + (if s.reuses reuse then s.growthLeft else s.growthLeft - 1) ≤ bucketsToCap s.buckets
  by_cases hr : s.reuses reuse = true
  · -- a tombstone is taken: there is one, so the table is not full
    have ht : 0 < bucketsToCap s.buckets - s.items - s.growthLeft := of_decide_eq_true (Bool.and_eq_true_iff.mp hr).2
    rw [if_pos hr, Nat.add_right_comm]
    exact Nat.lt_of_sub_pos (Nat.sub_sub .. ▸ ht)
  · -- an empty slot is taken: growth is left, and one of it is used
    have hg : 0 < s.growthLeft := of_decide_eq_true (((Bool.or_eq_true _ _).mp hc).resolve_right hr)
    rw [if_neg hr, Nat.add_assoc, Nat.add_sub_cancel' hg]
    exact h

theorem Shape.rebuilt_items (s : Shape) (n : Nat) : (s.rebuilt n).items = s.items := rfl

theorem Shape.rebuilt_capacity (s : Shape) {n : Nat} (h : s.items ≤ freshCap n) :
    (s.rebuilt n).capacity = freshCap n :=
  Nat.add_sub_cancel' h

/-- The rebuilt table has no tombstones. -/
theorem Shape.rebuilt_room (s : Shape) {n : Nat} (h : s.items ≤ freshCap n) :
    (s.rebuilt n).items + (s.rebuilt n).growthLeft ≤ bucketsToCap (s.rebuilt n).buckets :=
  Nat.le_of_eq (s.rebuilt_capacity h)

/-- `max(2·capacity, 1)`: the request of `insert_unchecked`'s reallocation. -/
theorem Shape.doubled (s : Shape) :
    s.items ≤ freshCap (Nat.max (2 * s.capacity) 1) ∧ (s.rebuilt (Nat.max (2 * s.capacity) 1)).canInsert false = true := by
  have h0 := le_freshCap (Nat.max (2 * s.capacity) 1)
  have h1 : 1 ≤ Nat.max (2 * s.capacity) 1 := Nat.le_max_right _ _
  have h2 : 2 * (s.items + s.growthLeft) ≤ Nat.max (2 * s.capacity) 1 := Nat.le_max_left _ _
  have hlt : s.items < freshCap (Nat.max (2 * s.capacity) 1) := by omega
  have hroom : 0 < (s.rebuilt (Nat.max (2 * s.capacity) 1)).growthLeft := Nat.sub_pos_of_lt hlt
  exact ⟨Nat.le_of_lt hlt, by simp [Shape.canInsert, hroom]⟩

theorem InvW.sub {c : Cache} (h : InvW c) {l : List Entry} {cur k t m : Nat} (hs : l.Sublist c.entries)
    (hc : cur = sumSizes l) (hk : k + l.length = c.entries.length) :
    InvW { c with entries := l, cur := cur, max := m, shape := c.shape.remove k t } :=
  ⟨(hs.map _).nodup h.nodup, hc, by rw [Shape.remove_items, h.items, ← hk, Nat.add_sub_cancel_left],
    Shape.remove_room _ _ (by rw [h.items, ← hk]; exact Nat.le_add_right _ _) h.room⟩

/-- `s`: the table as it is, or rebuilt. -/
theorem InvW.push {c : Cache} (h : InvW c) {e : Entry} {s : Shape} {reuse : Bool} (hid : e.key.id ∉ ids c.entries)
    (hc : s.canInsert reuse = true) (hr : s.items + s.growthLeft ≤ bucketsToCap s.buckets) (hi : s.items = c.shape.items) :
    InvW { c with entries := c.entries ++ [e], cur := c.cur + e.size, shape := s.inserted reuse } :=
  ⟨nodup_append_new h.nodup hid, by simp [h.cur], by simp [Shape.inserted, hi, h.items], Shape.inserted_ok hc hr⟩

theorem InvW.touch {c : Cache} (h : InvW c) {e e' : Entry} {cur : Nat} (he : lookup c.entries e'.key.id = some e)
    (hc : cur + e.size = c.cur + e'.size) :
    InvW { c with entries := touchList c.entries e', cur := cur } := by
  refine ⟨nodup_touchList h.nodup e', ?_, h.items.trans (length_touchList he).symm, h.room⟩
  -- both sides of `hc` are the new sum plus the old recorded size
  rw [touchList, sumSizes_append, sumSizes_cons, sumSizes_nil, Nat.add_zero]
  exact Nat.add_right_cancel (hc.trans (by rw [h.cur, ← (removeId_of_lookup he).1, Nat.add_right_comm]))

/-- The rebuilt table accepts (`Shape.doubled`), so the model's `diverge` exit is never taken. -/
theorem insertUnchecked_cases (c : Cache) (e : Entry) (o : Oracle) :
    (c.shape.canInsert o.reuse = true ∧
      insertUnchecked c e o =
        { cache := { c with entries := c.entries ++ [e], cur := c.cur + e.size, shape := c.shape.inserted o.reuse },
          evs := [], rebuilt := none, status := .ok }) ∨
    (c.shape.canInsert o.reuse = false ∧
      insertUnchecked c e o =
        { cache := { c with entries := c.entries ++ [e], cur := c.cur + e.size,
                            shape := (c.shape.rebuilt (Nat.max (2 * c.shape.capacity) 1)).inserted false },
          evs := rehashEvs c.entries, rebuilt := some c.entries.length, status := .ok }) := by
  unfold insertUnchecked
  by_cases hc : c.shape.canInsert o.reuse = true
  · exact .inl ⟨hc, if_pos hc⟩
  · exact .inr ⟨Bool.eq_false_iff.mpr hc, by rw [if_neg hc, if_pos c.shape.doubled.2]⟩

theorem insertUnchecked_spec (c : Cache) (e : Entry) (o : Oracle) :
    (insertUnchecked c e o).cache.entries = c.entries ++ [e] ∧
    (insertUnchecked c e o).cache.cur = c.cur + e.size ∧
    (insertUnchecked c e o).cache.max = c.max ∧ (insertUnchecked c e o).status = .ok := by
  rcases insertUnchecked_cases c e o with ⟨-, eq⟩ | ⟨-, eq⟩ <;> rw [eq] <;> exact ⟨rfl, rfl, rfl, rfl⟩

@[simp] theorem dropped_insertUnchecked (c : Cache) (e : Entry) (o : Oracle) :
    droppedToks (insertUnchecked c e o).evs = [] := by
  rcases insertUnchecked_cases c e o with ⟨-, eq⟩ | ⟨-, eq⟩ <;> rw [eq]
  · rfl
  · exact dropped_rehash _

theorem invW_insertUnchecked {c : Cache} (e : Entry) (o : Oracle) (h : InvW c) (hid : e.key.id ∉ ids c.entries) :
    InvW (insertUnchecked c e o).cache ∧ (insertUnchecked c e o).status = .ok := by
  rcases insertUnchecked_cases c e o with ⟨hc, eq⟩ | ⟨-, eq⟩ <;> rw [eq] <;> refine ⟨?_, rfl⟩
  · exact h.push hid hc h.room rfl
  · exact h.push hid c.shape.doubled.2 (c.shape.rebuilt_room c.shape.doubled.1) (c.shape.rebuilt_items _)

theorem oldSize_le_sum {l : List Entry} {id : Nat} : oldSize (lookup l id) ≤ sumSizes l :=
  sumSizes_removeId l id ▸ Nat.le_add_left _ _

theorem oldCount_le_length {l : List Entry} {id : Nat} : oldCount (lookup l id) ≤ l.length :=
  length_removeId l id ▸ Nat.le_add_left _ _

theorem InvW.cur_removeId {c : Cache} (h : InvW c) (id : Nat) :
    c.cur - oldSize (lookup c.entries id) = sumSizes (removeId c.entries id) := by
  rw [h.cur, ← sumSizes_removeId c.entries id, Nat.add_sub_cancel]

theorem InvW.size_le_cur {c : Cache} (h : InvW c) {e : Entry} (he : e ∈ c.entries) : e.size ≤ c.cur := by
  have := oldSize_le_sum (l := c.entries) (id := e.key.id)
  rw [lookup_of_mem h.nodup he] at this
  rw [h.cur]; exact this

theorem InvW.grown {c : Cache} (h : InvW c) {id : Nat} {e : Entry} (he : lookup c.entries id = some e) (v' : Val) (d : Nat) :
    InvW { c with entries := touchList c.entries { e with val := v', size := e.size + d }, cur := c.cur + d } :=
  h.touch (e := e) (lookup_key he) ((Nat.add_assoc ..).trans (congrArg _ (Nat.add_comm ..)))

theorem InvW.shrunk {c : Cache} (h : InvW c) {id : Nat} {e : Entry} (he : lookup c.entries id = some e) (v' : Val) {d : Nat}
    (hd : d ≤ e.size) :
    InvW { c with entries := touchList c.entries { e with val := v', size := e.size - d }, cur := c.cur - d } :=
  h.touch (e := e) (lookup_key he)
    ((Nat.sub_add_comm (Nat.le_trans hd (h.size_le_cur (lookup_some_mem he).1))).symm.trans (Nat.add_sub_assoc hd _))

theorem InvW.dedupe {c : Cache} (h : InvW c) (id t : Nat) :
    InvW { c with entries := removeId c.entries id, cur := c.cur - oldSize (lookup c.entries id),
                  shape := c.shape.remove (oldCount (lookup c.entries id)) t } :=
  h.sub (removeId_sublist _ _) (h.cur_removeId id) (Nat.add_comm _ _ ▸ length_removeId c.entries id)

/-- The cache `insert` has made room in: the entry with key `id` removed, then the least recently used
of the others evicted down to `target`. From this state `insert` calls `insert_unchecked`. -/
def Cache.madeRoom (c : Cache) (id target t : Nat) : Cache :=
  let old := lookup c.entries id
  let ej := eject (removeId c.entries id) (c.cur - oldSize old) target
  { c with entries := ej.rest, cur := ej.cur, shape := c.shape.remove (oldCount old + ej.evicted.length) t }

theorem madeRoom_length (l : List Entry) (id cur target : Nat) :
    oldCount (lookup l id) + (eject (removeId l id) cur target).evicted.length +
      (eject (removeId l id) cur target).rest.length = l.length := by
  rw [Nat.add_assoc, eject_length, Nat.add_comm]; exact length_removeId l id

theorem InvW.removed_le_items {c : Cache} (h : InvW c) (id cur target : Nat) :
    oldCount (lookup c.entries id) + (eject (removeId c.entries id) cur target).evicted.length ≤ c.shape.items :=
  h.items ▸ Nat.le.intro (madeRoom_length c.entries id cur target)

theorem invW_madeRoom {c : Cache} (h : InvW c) (id target t : Nat) :
    InvW (c.madeRoom id target t) ∧
    (eject (removeId c.entries id) (c.cur - oldSize (lookup c.entries id)) target).diverged = false ∧
    (c.madeRoom id target t).cur ≤ target ∧ id ∉ ids (c.madeRoom id target t).entries := by
  obtain ⟨hd, hc, hle, _⟩ := eject_spec (removeId c.entries id) _ target (h.cur_removeId id)
  have hsub := eject_rest_sublist (removeId c.entries id) (c.cur - oldSize (lookup c.entries id)) target
  exact ⟨h.sub (hsub.trans (removeId_sublist _ _)) hc (madeRoom_length ..), hd, hle,
    fun hm => not_mem_ids_removeId h.nodup id ((hsub.map _).subset hm)⟩

theorem insert_too_large {p : Params} {c : Cache} (k : Key) (v : Val) (o : Oracle) (hs : entrySize p k v > c.max) :
    insert p c k v o =
      { cache := c, out := .insTooLarge k v (entrySize p k v) c.max, evs := [.szK k.tok, .szV v.tok] } := by
  simp only [insert, if_pos hs]

/-- An accepted `insert` is `insert_unchecked` on `Cache.madeRoom`; the total being exact (`h`), the eviction
loop stops, so the model's `diverge` exit is not taken. -/
theorem insert_eq {p : Params} {c : Cache} (k : Key) (v : Val) (o : Oracle) (h : InvW c)
    (hs : entrySize p k v ≤ c.max) :
    insert p c k v o =
      let old := lookup c.entries k.id
      let ej := eject (removeId c.entries k.id) (c.cur - oldSize old) (c.max - entrySize p k v)
      let g := insertUnchecked (c.madeRoom k.id (c.max - entrySize p k v) o.tombs) ⟨k, v, entrySize p k v⟩ o
      { cache := g.cache, out := .ownVal (old.map (·.val)),
        evs := [Ev.szK k.tok, .szV v.tok, .hash k.id] ++ (match old with | some e => [Ev.dropK e.key.tok] | none => [])
          ++ evictAllEvs ej.evicted ++ g.evs,
        status := g.status, rebuilt := g.rebuilt } := by
  simp only [insert, if_neg (Nat.not_lt.mpr hs), (invW_madeRoom h k.id (c.max - entrySize p k v) o.tombs).2.1,
    Bool.false_eq_true, if_false]
  rfl

theorem invW_insert {p : Params} {c : Cache} (k : Key) (v : Val) (o : Oracle) (h : InvW c) :
    InvW (insert p c k v o).cache ∧ (insert p c k v o).status = .ok := by
  by_cases hs : entrySize p k v ≤ c.max
  · obtain ⟨hi, -, -, hnot⟩ := invW_madeRoom h k.id (c.max - entrySize p k v) o.tombs
    rw [insert_eq k v o h hs]
    exact invW_insertUnchecked ⟨k, v, entrySize p k v⟩ o hi hnot
  · rw [insert_too_large k v o (Nat.lt_of_not_le hs)]; exact ⟨h, rfl⟩

/-- `try_insert` rejects the pair, leaving the cache as it is, or links it with `insert_unchecked`: it never evicts. -/
theorem tryInsert_cases (p : Params) (c : Cache) (k : Key) (v : Val) (o : Oracle) :
    (∃ out evs, tryInsert p c k v o = { cache := c, out := out, evs := evs } ∧ out.owned = [k.tok, v.tok] ∧
      droppedToks evs = [] ∧ hashCount evs ≤ 1) ∨
    (entrySize p k v ≤ c.max - c.cur ∧ k.id ∉ ids c.entries ∧
      tryInsert p c k v o =
        let g := insertUnchecked c ⟨k, v, entrySize p k v⟩ o
        { cache := g.cache, out := .unit, evs := [Ev.szK k.tok, .szV v.tok] ++ [.hash k.id] ++ g.evs,
          status := g.status, rebuilt := g.rebuilt }) := by
  unfold tryInsert
  by_cases h1 : entrySize p k v > c.max
  · rw [if_pos h1]; exact .inl ⟨_, _, rfl, rfl, rfl, Nat.zero_le _⟩
  rw [if_neg h1]
  by_cases h2 : entrySize p k v > c.max - c.cur
  · rw [if_pos h2]; exact .inl ⟨_, _, rfl, rfl, rfl, Nat.zero_le _⟩
  rw [if_neg h2]
  by_cases h3 : (lookup c.entries k.id).isSome = true
  · rw [if_pos h3]; exact .inl ⟨_, _, rfl, rfl, rfl, Nat.le_refl _⟩
  · rw [if_neg h3]; exact .inr ⟨Nat.le_of_not_gt h2, fun hm => h3 (lookup_isSome_iff.mpr hm), rfl⟩

theorem invW_tryInsert {p : Params} {c : Cache} (k : Key) (v : Val) (o : Oracle) (h : InvW c) :
    InvW (tryInsert p c k v o).cache ∧ (tryInsert p c k v o).status = .ok := by
  rcases tryInsert_cases p c k v o with ⟨out, evs, e, -⟩ | ⟨-, hid, e⟩ <;> rw [e]
  · exact ⟨h, rfl⟩
  · exact invW_insertUnchecked ⟨k, v, entrySize p k v⟩ o h hid

theorem InvW.removed {c : Cache} (h : InvW c) {id t : Nat} {e : Entry} (he : lookup c.entries id = some e) :
    InvW { c with entries := removeId c.entries id, cur := c.cur - e.size, shape := c.shape.remove 1 t } := by
  have := h.dedupe id t
  rwa [he] at this

theorem removeEntry_found {c : Cache} {id : Nat} {e : Entry} (o : Oracle) (he : lookup c.entries id = some e) :
    removeEntry c id o =
      { cache := { c with entries := removeId c.entries id, cur := c.cur - e.size, shape := c.shape.remove 1 o.tombs },
        out := .ownPair (some (pairOf e)), evs := [.hash id] } := by
  simp only [removeEntry, he]

theorem invW_cleared (c : Cache) : InvW { c with entries := [], cur := 0, shape := c.shape.cleared } :=
  ⟨by simp, rfl, rfl, by simp [Shape.cleared]⟩

theorem invW_simple {c : Cache} {o : Oracle} {r : Res} (h : InvW c) (hs : Simple c o r) : InvW r.cache := by
  cases hs with
  | same => exact h
  | touched e he => exact h.touch he rfl
  | removed e he => exact h.removed he
  | cleared => exact invW_cleared c

theorem invW_setMaxSize {c : Cache} (m : Nat) (o : Oracle) (h : InvW c) :
    InvW (setMaxSize c m o).cache ∧ (setMaxSize c m o).status = .ok ∧ (setMaxSize c m o).cache.cur ≤ m := by
  obtain ⟨hd, hc, hle, _⟩ := eject_spec c.entries c.cur m h.cur
  exact ⟨h.sub (eject_rest_sublist _ _ _) hc (eject_length _ _ _), if_neg (by rw [hd]; exact Bool.false_ne_true), hle⟩

theorem invW_rebuild {c : Cache} {n : Nat} (h : InvW c) (hn : c.shape.items ≤ n) : InvW (rebuild c n).1 :=
  ⟨h.nodup, h.cur, h.items, c.shape.rebuilt_room (Nat.le_trans hn (le_freshCap n))⟩

theorem retainGo_spec {σ : Type} (pr : σ → Key → Val → Bool × σ) (st : σ) (l : List Entry) :
    (retainGo pr st l).kept.Sublist l ∧ ((retainGo pr st l).kept ++ (retainGo pr st l).removed).Perm l := by
  induction l generalizing st with
  | nil => exact ⟨.slnil, .nil⟩
  | cons e l ih =>
    obtain ⟨a, b⟩ := ih (pr st e.key e.val).2
    simp only [retainGo]
    split
    · exact ⟨a.cons_cons _, b.cons _⟩
    · exact ⟨a.cons _, List.perm_middle.trans (b.cons _)⟩

theorem retainGo_sum {σ : Type} (pr : σ → Key → Val → Bool × σ) (st : σ) (l : List Entry) :
    sumSizes (retainGo pr st l).kept + sumSizes (retainGo pr st l).removed = sumSizes l :=
  sumSizes_append .. ▸ sumSizes_perm (retainGo_spec pr st l).2

theorem subSizes_eq (cur : Nat) (l : List Entry) (h : sumSizes l ≤ cur) : subSizes cur l = cur - sumSizes l := by
  induction l generalizing cur with
  | nil => rfl
  | cons e l ih => exact (ih _ (Nat.le_sub_of_add_le' h)).trans (Nat.sub_sub ..)

theorem subSizes_take (l : List Entry) (cur j : Nat) (h : cur = sumSizes l) :
    subSizes cur (l.take j) = sumSizes (l.drop j) := by
  have : sumSizes (l.take j) + sumSizes (l.drop j) = sumSizes l := by
    rw [← sumSizes_append, List.take_append_drop]
  rw [subSizes_eq _ _ (h ▸ this ▸ Nat.le_add_right _ _), h, ← this, Nat.add_sub_cancel_left]

theorem InvW.retained {c : Cache} (h : InvW c) {k r : List Entry} (hs : k.Sublist c.entries)
    (hp : (k ++ r).Perm c.entries) (t : Nat) :
    InvW { c with entries := k, cur := subSizes c.cur r, shape := c.shape.remove r.length t } ∧
    subSizes c.cur r + sumSizes r = c.cur := by
  have hsum := sumSizes_perm hp
  have hlen := hp.length_eq
  rw [sumSizes_append, ← h.cur] at hsum
  rw [List.length_append] at hlen
  have hle : sumSizes r ≤ c.cur := hsum ▸ Nat.le_add_left _ _
  rw [subSizes_eq _ _ hle]
  exact ⟨h.sub hs (by rw [← hsum, Nat.add_sub_cancel]) (Nat.add_comm _ _ ▸ hlen), Nat.sub_add_cancel hle⟩

theorem invW_retain {σ : Type} {c : Cache} (pr : σ → Key → Val → Bool × σ) (st : σ) (o : Oracle) (h : InvW c) :
    InvW (retain c pr st o).cache :=
  (h.retained (retainGo_spec pr st c.entries).1 (retainGo_spec pr st c.entries).2 o.tombs).1

/-- `k + a + ovh`: the shape of `entrySize`, `a` the part `mutate` changes. -/
theorem size_grow {k a b ovh : Nat} (h : a ≤ b) : k + a + ovh + (b - a) = k + b + ovh := by
  rw [Nat.add_right_comm k a ovh, Nat.add_assoc, Nat.add_sub_cancel' h, Nat.add_right_comm]

theorem size_shrink {k a b ovh : Nat} (h : b ≤ a) : k + a + ovh - (a - b) = k + b + ovh := by
  obtain ⟨d, rfl⟩ := Nat.exists_eq_add_of_le h
  rw [Nat.add_sub_cancel_left, ← Nat.add_assoc k b d, Nat.add_right_comm (k + b) d ovh, Nat.add_sub_cancel]

/-- What `mutate` does before it re-accounts: the lookup, the first size estimate, the closure (which
drops the old value object if it replaces it), the second size estimate. -/
def mutatePre (id : Nat) (v v' : Val) : List Ev :=
  [Ev.hash id, .szV v.tok, .closure v.tok] ++ (if v'.tok = v.tok then [] else [Ev.dropV v.tok]) ++ [.szV v'.tok]

theorem dropped_mutatePre (id : Nat) (v v' : Val) :
    droppedToks (mutatePre id v v') = if v'.tok = v.tok then [] else [v.tok] := by
  unfold mutatePre; split <;> rfl

/-- `mutate` on a present key in terms of operations already known: the overflowing entry is removed as
`remove_entry` does; once a growing entry is promoted the cache ejects to its limit as `set_max_size(max_size)` does. -/
theorem mutate_eq {p : Params} {c : Cache} {id : Nat} (f : Val → Val × Nat) (o : Oracle) {e : Entry}
    (he : lookup c.entries id = some e) :
    mutate p c id f o =
      if valMemSize p (f e.val).1 > valMemSize p e.val then
        if e.size + (valMemSize p (f e.val).1 - valMemSize p e.val) > c.max then
          { cache := (removeEntry c id o).cache,
            out := .mutTooLarge e.key (f e.val).1 e.size (e.size + (valMemSize p (f e.val).1 - valMemSize p e.val)) c.max,
            evs := mutatePre id e.val (f e.val).1 ++ [.hash id] }
        else
          let r := setMaxSize { c with
            entries := touchList c.entries
              { e with val := (f e.val).1, size := e.size + (valMemSize p (f e.val).1 - valMemSize p e.val) },
            cur := c.cur + (valMemSize p (f e.val).1 - valMemSize p e.val) } c.max o
          { cache := r.cache, out := .mutOk (some (f e.val).2), evs := mutatePre id e.val (f e.val).1 ++ r.evs,
            status := r.status }
      else
        { cache := { c with
            entries := touchList c.entries
              { e with val := (f e.val).1, size := e.size - (valMemSize p e.val - valMemSize p (f e.val).1) },
            cur := c.cur - (valMemSize p e.val - valMemSize p (f e.val).1) },
          out := .mutOk (some (f e.val).2), evs := mutatePre id e.val (f e.val).1 } := by
  simp only [mutate, he, removeEntry, setMaxSize, mutatePre]

/-- `mutate` case by case: the key is absent; the estimate of the value grows by `d` and the entry exceeds
the limit; it grows by `d` and fits; it shrinks by `d ≥ 0`. -/
theorem mutate_cases (p : Params) (c : Cache) (id : Nat) (f : Val → Val × Nat) (o : Oracle) :
    (lookup c.entries id = none ∧ mutate p c id f o = { cache := c, out := .mutOk none, evs := [.hash id] }) ∨
    (∃ e d, lookup c.entries id = some e ∧ valMemSize p (f e.val).1 > valMemSize p e.val ∧
      valMemSize p (f e.val).1 - valMemSize p e.val = d ∧ e.size + d > c.max ∧
      mutate p c id f o =
        { cache := (removeEntry c id o).cache, out := .mutTooLarge e.key (f e.val).1 e.size (e.size + d) c.max,
          evs := mutatePre id e.val (f e.val).1 ++ [.hash id] }) ∨
    (∃ e d, lookup c.entries id = some e ∧ valMemSize p (f e.val).1 > valMemSize p e.val ∧
      valMemSize p (f e.val).1 - valMemSize p e.val = d ∧ ¬ e.size + d > c.max ∧
      mutate p c id f o =
        let r := setMaxSize { c with
          entries := touchList c.entries { e with val := (f e.val).1, size := e.size + d }, cur := c.cur + d } c.max o
        { cache := r.cache, out := .mutOk (some (f e.val).2), evs := mutatePre id e.val (f e.val).1 ++ r.evs,
          status := r.status }) ∨
    (∃ e d, lookup c.entries id = some e ∧ ¬ valMemSize p (f e.val).1 > valMemSize p e.val ∧
      valMemSize p e.val - valMemSize p (f e.val).1 = d ∧
      mutate p c id f o =
        { cache := { c with
            entries := touchList c.entries { e with val := (f e.val).1, size := e.size - d }, cur := c.cur - d },
          out := .mutOk (some (f e.val).2), evs := mutatePre id e.val (f e.val).1 }) := by
  cases hl : lookup c.entries id with
  | none => exact .inl ⟨rfl, by simp only [mutate, hl]⟩
  | some e =>
    rw [mutate_eq f o hl]
    by_cases hgrow : valMemSize p (f e.val).1 > valMemSize p e.val
    · by_cases hbig : e.size + (valMemSize p (f e.val).1 - valMemSize p e.val) > c.max
      · exact .inr (.inl ⟨e, _, rfl, hgrow, rfl, hbig, by rw [if_pos hgrow, if_pos hbig]⟩)
      · exact .inr (.inr (.inl ⟨e, _, rfl, hgrow, rfl, hbig, by rw [if_pos hgrow, if_neg hbig]⟩))
    · exact .inr (.inr (.inr ⟨e, _, rfl, hgrow, rfl, by rw [if_neg hgrow]⟩))

/-- The one size-arithmetic side condition of a step from a weak state: what a non-expanding `mutate`
subtracts from the recorded size of its entry does not exceed it. True of every entry whose recorded
size is its `entry_size` (`InvA.mutateOk`), and of every entry whose recorded size is at least the
estimate of its value. -/
def mutateOk (p : Params) (c : Cache) : Op → Prop
  | .mutate id f => ∀ e, lookup c.entries id = some e → valMemSize p e.val - valMemSize p (f e.val).1 ≤ e.size
  | _ => True

theorem InvA.mutateOk {p : Params} {c : Cache} (h : InvA p c) (op : Op) : mutateOk p c op := by
  cases op with
  | mutate id f =>
    intro e he
    -- what is subtracted is at most the value's heap size, which is part of the entry's size
    rw [h.sizes e (lookup_some_mem he).1]
    unfold entrySize valMemSize
    rw [Nat.add_sub_add_left]
    exact Nat.le_trans (Nat.sub_le _ _) (Nat.le_trans (Nat.le_add_left _ _) (Nat.le_add_right _ _))
  | _ => exact True.intro

theorem invW_mutate {p : Params} {c : Cache} (id : Nat) (f : Val → Val × Nat) (o : Oracle) (h : InvW c)
    (hrec : mutateOk p c (.mutate id f)) :
    InvW (mutate p c id f o).cache ∧ (mutate p c id f o).status = .ok := by
  rcases mutate_cases p c id f o with ⟨-, eq⟩ | ⟨e, d, he, -, -, -, eq⟩ | ⟨e, d, he, -, -, -, eq⟩ | ⟨e, d, he, -, hd, eq⟩ <;> rw [eq]
  · exact ⟨h, rfl⟩
  · exact ⟨invW_simple (r := step p c (.removeEntry id) o) h (step_simple o h.nodup rfl), rfl⟩
  · obtain ⟨hi, hs, -⟩ := invW_setMaxSize c.max o (h.grown he (f e.val).1 d)
    exact ⟨hi, hs⟩
  · exact ⟨h.shrunk he _ (hd ▸ hrec e he), rfl⟩

theorem new_inv (p : Params) (max n : Nat) : InvA p (Cache.withCapacity max n) :=
  ⟨by simp [Cache.withCapacity], by simp [Cache.withCapacity], rfl, Nat.zero_le _, rfl,
   by simp [Cache.withCapacity, Shape.fresh, freshCap]⟩

theorem cleared_inv {p : Params} (c : Cache) :
    InvA p { c with entries := [], cur := 0, shape := c.shape.cleared } :=
  (invW_cleared c).strong (by simp) (Nat.zero_le _)

theorem insertUnchecked_inv {p : Params} {c : Cache} (e : Entry) (o : Oracle) (h : InvW c)
    (hs : ∀ x ∈ c.entries, x.size = entrySize p x.key x.val) (hid : e.key.id ∉ ids c.entries)
    (hsz : e.size = entrySize p e.key e.val) (hfit : c.cur + e.size ≤ c.max) :
    InvA p (insertUnchecked c e o).cache := by
  obtain ⟨he, hc, hm, _⟩ := insertUnchecked_spec c e o
  refine (invW_insertUnchecked e o h hid).1.strong ?_ (by rw [hc, hm]; exact hfit)
  rw [he]
  exact List.forall_mem_append.mpr ⟨hs, List.forall_mem_singleton.mpr hsz⟩

theorem insert_inv {p : Params} {c : Cache} (k : Key) (v : Val) (o : Oracle) (h : InvA p c) :
    InvA p (insert p c k v o).cache := by
  by_cases hs : entrySize p k v ≤ c.max
  · obtain ⟨hi, -, hle, hnot⟩ := invW_madeRoom h.weak k.id (c.max - entrySize p k v) o.tombs
    rw [insert_eq k v o h.weak hs]
    exact insertUnchecked_inv ⟨k, v, entrySize p k v⟩ o hi
      (fun x hx => h.sizes x (((eject_rest_sublist _ _ _).trans (removeId_sublist _ _)).subset hx)) hnot rfl
      (Nat.add_le_of_le_sub hs hle)
  · rw [insert_too_large k v o (Nat.lt_of_not_le hs)]; exact h

theorem tryInsert_inv {p : Params} {c : Cache} (k : Key) (v : Val) (o : Oracle) (h : InvA p c) :
    InvA p (tryInsert p c k v o).cache := by
  rcases tryInsert_cases p c k v o with ⟨out, evs, e, -⟩ | ⟨hfit, hid, e⟩ <;> rw [e]
  · exact h
  · exact insertUnchecked_inv ⟨k, v, entrySize p k v⟩ o h.weak h.sizes hid rfl (Nat.add_le_of_le_sub' h.bound hfit)

theorem simple_inv {p : Params} {c : Cache} {o : Oracle} {r : Res} (h : InvA p c) (hs : Simple c o r) :
    InvA p r.cache :=
  (invW_simple h.weak hs).strong (fun x hx => h.sizes x (hs.mem hx))
    (by rw [hs.cur_le.2]; exact Nat.le_trans hs.cur_le.1 h.bound)

theorem setMaxSize_inv {p : Params} {c : Cache} (m : Nat) (o : Oracle) (h : InvW c)
    (hs : ∀ e ∈ c.entries, e.size = entrySize p e.key e.val) : InvA p (setMaxSize c m o).cache :=
  (invW_setMaxSize m o h).1.strong (fun e he => hs e ((eject_rest_sublist _ _ _).subset he)) (invW_setMaxSize m o h).2.2

/-- The recorded size of the mutated entry, as both branches of `mutate` compute it, is its
`entry_size`. -/
theorem mutate_size {p : Params} {c : Cache} (h : InvA p c) {id : Nat} {e : Entry} (he : lookup c.entries id = some e)
    (v' : Val) :
    (valMemSize p v' > valMemSize p e.val → e.size + (valMemSize p v' - valMemSize p e.val) = entrySize p e.key v') ∧
    (¬ valMemSize p v' > valMemSize p e.val → e.size - (valMemSize p e.val - valMemSize p v') = entrySize p e.key v') := by
  rw [h.sizes e (lookup_some_mem he).1]
  unfold entrySize valMemSize
  rw [Nat.add_sub_add_left, Nat.add_sub_add_left]
  exact ⟨fun hg => size_grow (Nat.le_of_lt (Nat.lt_of_add_lt_add_left hg)),
    fun hg => size_shrink (Nat.le_of_not_lt fun hlt => hg (Nat.add_lt_add_left hlt _))⟩

theorem mutate_inv {p : Params} {c : Cache} (id : Nat) (f : Val → Val × Nat) (o : Oracle) (h : InvA p c) :
    InvA p (mutate p c id f o).cache := by
  have sized : ∀ {e' : Entry}, e'.size = entrySize p e'.key e'.val →
      ∀ x ∈ touchList c.entries e', x.size = entrySize p x.key x.val :=
    fun hs x hx => (mem_touchList hx).elim (h.sizes x) (· ▸ hs)
  rcases mutate_cases p c id f o with ⟨-, eq⟩ | ⟨e, d, he, -, -, -, eq⟩ | ⟨e, d, he, hgrow, hd, -, eq⟩ | ⟨e, d, he, hgrow, hd, eq⟩ <;>
    rw [eq]
  · exact h
  · exact simple_inv (r := step p c (.removeEntry id) o) h (step_simple o h.nodup rfl)
  · exact setMaxSize_inv c.max o (h.weak.grown he _ _) (sized (hd ▸ (mutate_size h he _).1 hgrow))
  · exact (h.weak.shrunk he _ (hd ▸ h.mutateOk (.mutate id f) e he)).strong
      (sized (hd ▸ (mutate_size h he _).2 hgrow)) (Nat.le_trans (Nat.sub_le _ _) h.bound)

theorem retain_inv {p : Params} {σ : Type} {c : Cache} (pr : σ → Key → Val → Bool × σ) (st : σ) (o : Oracle)
    (h : InvA p c) : InvA p (retain c pr st o).cache := by
  obtain ⟨a, b⟩ := retainGo_spec pr st c.entries
  obtain ⟨hw, hc⟩ := h.weak.retained a b o.tombs
  exact hw.strong (fun e he => h.sizes e (a.subset he)) (Nat.le_trans (Nat.le.intro hc) h.bound)

theorem invW_resized {c : Cache} {reqs : List Nat} {r : Res} (h : InvW c) (hr : Resized c reqs r) : InvW r.cache := by
  cases hr with
  | same => exact h
  | rebuilt n hn => exact invW_rebuild h hn

theorem resized_inv {p : Params} {c : Cache} {reqs : List Nat} {r : Res} (h : InvA p c) (hr : Resized c reqs r) :
    InvA p r.cache := by
  cases hr with
  | same => exact h
  | rebuilt n hn => exact (invW_rebuild h.weak hn).strong h.sizes h.bound

theorem cloneEntries_map {β : Type} (g : Entry → β)
    (hg : ∀ (e : Entry) (kt vt : Nat),
      g { e with key := { e.key with tok := kt }, val := { e.val with tok := vt } } = g e)
    (l : List Entry) (base : Nat) : (cloneEntries l base).map g = l.map g := by
  induction l generalizing base with
  | nil => rfl
  | cons e l ih => simp only [cloneEntries, List.map_cons, hg, ih]

theorem ids_cloneEntries (l : List Entry) (base : Nat) : ids (cloneEntries l base) = ids l :=
  cloneEntries_map _ (fun _ _ _ => rfl) l base

theorem length_cloneEntries (l : List Entry) (base : Nat) : (cloneEntries l base).length = l.length := by
  simpa using congrArg List.length (cloneEntries_map (fun _ => ()) (fun _ _ _ => rfl) l base)

theorem sumSizes_cloneEntries (l : List Entry) (base : Nat) : sumSizes (cloneEntries l base) = sumSizes l := by
  induction l generalizing base with
  | nil => rfl
  | cons e l ih => simp [cloneEntries, ih]

theorem sizes_cloneEntries {p : Params} (l : List Entry) (base : Nat)
    (h : ∀ e ∈ l, e.size = entrySize p e.key e.val) :
    ∀ e ∈ cloneEntries l base, e.size = entrySize p e.key e.val := by
  induction l generalizing base with
  | nil => exact fun _ he => nomatch he
  | cons a l ih =>
    -- `entry_size` does not look at the tokens of the copy
    exact List.forall_mem_cons.mpr ⟨h a (List.mem_cons_self ..), ih _ fun x hx => h x (List.mem_cons_of_mem _ hx)⟩

/-- Status `ok`, not `ub`: `insert_untracked` never hits its unchecked `unwrap`. -/
theorem clone_invW {c : Cache} (base : Nat) (h : InvW c) :
    InvW (clone c base).1 ∧ (clone c base).2.2 = .ok := by
  have hcap : c.entries.length ≤ freshCap c.shape.capacity :=
    h.items ▸ Nat.le_trans (Nat.le_add_right c.shape.items c.shape.growthLeft) (le_freshCap _)
  refine ⟨⟨?_, ?_, ?_, ?_⟩, if_pos hcap⟩
  · exact (ids_cloneEntries c.entries base).symm ▸ h.nodup
  · exact h.cur.trans (sumSizes_cloneEntries c.entries base).symm
  · exact (length_cloneEntries c.entries base).symm
  · show c.entries.length + (freshCap c.shape.capacity - c.entries.length) ≤ freshCap c.shape.capacity
    exact Nat.le_of_eq (Nat.add_sub_cancel' hcap)

theorem clone_inv {p : Params} {c : Cache} (base : Nat) (h : InvA p c) :
    InvA p (clone c base).1 ∧ (clone c base).2.2 = .ok :=
  ⟨(clone_invW base h.weak).1.strong (sizes_cloneEntries _ _ h.sizes) h.bound, (clone_invW base h.weak).2⟩

/-- No step diverges or hits undefined behaviour; a step panics only in `reserve`/`shrink_to` (`unwrap` of a
refused reservation), and then the cache is unchanged. -/
theorem step_weak {p : Params} {c : Cache} (op : Op) (o : Oracle) (h : InvW c) (hu : mutateOk p c op) :
    InvW (step p c op o).cache ∧
    ((step p c op o).status = .ok ∨ ((step p c op o).status = .implPanic ∧ (step p c op o).cache = c)) := by
  cases op with
  | insert k v => exact (invW_insert k v o h).imp_right .inl
  | tryInsert k v => exact (invW_tryInsert k v o h).imp_right .inl
  | setMaxSize m => exact ⟨(invW_setMaxSize m o h).1, .inl (invW_setMaxSize m o h).2.1⟩
  | mutate id f => exact (invW_mutate id f o h hu).imp_right .inl
  | reserve | tryReserve | shrinkTo | shrinkToFit =>
    exact ⟨invW_resized h (step_resized o rfl), (step_resized o rfl).status⟩
  | retain pr => exact ⟨invW_retain _ _ o h, .inl rfl⟩
  | iterate kind calls forget =>
    refine ⟨?_, .inl rfl⟩
    rcases step_iterate p c kind calls forget o with e | e <;> rw [e]
    · exact h
    · exact invW_cleared c
  | cloneProbe base => exact ⟨h, .inl (clone_invW base h).2⟩
  | _ => exact ⟨invW_simple h (step_simple o h.nodup rfl), .inl (step_simple o h.nodup rfl).status⟩

theorem invW_step {p : Params} {c : Cache} (op : Op) (o : Oracle) (h : InvW c) (hu : mutateOk p c op) :
    InvW (step p c op o).cache :=
  (step_weak op o h hu).1

theorem step_status {p : Params} {c : Cache} (op : Op) (o : Oracle) (h : InvW c) (hu : mutateOk p c op) :
    (step p c op o).status = .ok ∨ ((step p c op o).status = .implPanic ∧ (step p c op o).cache = c) :=
  (step_weak op o h hu).2

theorem step_inv {p : Params} {c : Cache} (op : Op) (o : Oracle) (h : InvA p c) : InvA p (step p c op o).cache := by
  cases op with
  | insert k v => exact insert_inv k v o h
  | tryInsert k v => exact tryInsert_inv k v o h
  | setMaxSize m => exact setMaxSize_inv m o h.weak h.sizes
  | reserve | tryReserve | shrinkTo | shrinkToFit =>
    exact resized_inv h (step_resized o rfl)
  | mutate id f => exact mutate_inv id f o h
  | retain pr => exact retain_inv _ _ o h
  | iterate kind calls forget =>
    rcases step_iterate p c kind calls forget o with e | e <;> rw [e]
    · exact h
    · exact cleared_inv c
  | cloneProbe base => exact h
  | _ => exact simple_inv h (step_simple o h.nodup rfl)

end LruMem
