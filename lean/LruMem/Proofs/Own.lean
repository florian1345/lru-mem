import LruMem.Proofs.Eject
/-!
# Ownership accounting: the tokens of the key/value objects a list of entries holds, and those an event list drops
-/
namespace LruMem

/-- Tokens of the key and value objects held by a list of entries. -/
def toks : List Entry → List Nat
  | [] => []
  | e :: l => e.key.tok :: e.val.tok :: toks l

def optToks : Option Entry → List Nat
  | some e => [e.key.tok, e.val.tok]
  | none => []

@[simp] theorem toks_nil : toks [] = [] := rfl
@[simp] theorem toks_cons (e : Entry) (l : List Entry) : toks (e :: l) = e.key.tok :: e.val.tok :: toks l := rfl

@[simp] theorem toks_append (a b : List Entry) : toks (a ++ b) = toks a ++ toks b := by
  induction a with
  | nil => rfl
  | cons e a ih => simp [ih]

theorem toks_cons_append (e : Entry) (l : List Entry) : toks (e :: l) = [e.key.tok, e.val.tok] ++ toks l := rfl

theorem count_pair (t a b : Nat) : List.count t [a, b] = List.count t [a] + List.count t [b] :=
  List.count_append (l₁ := [a]) (l₂ := [b])

theorem cnt_removeId (t : Nat) (l : List Entry) (id : Nat) :
    List.count t (toks (removeId l id)) + List.count t (optToks (lookup l id)) = List.count t (toks l) := by
  induction l with
  | nil => rfl
  | cons a l ih =>
    rw [removeId_cons, lookup_cons]
    by_cases h : a.key.id = id
    · rw [if_pos h, if_pos h, toks_cons_append, List.count_append]; exact Nat.add_comm ..
    · rw [if_neg h, if_neg h, toks_cons_append, toks_cons_append, List.count_append, List.count_append, Nat.add_assoc, ih]

theorem cnt_touchList (t : Nat) (l : List Entry) (e : Entry) :
    List.count t (toks (touchList l e)) = List.count t (toks (removeId l e.key.id)) + List.count t [e.key.tok, e.val.tok] := by
  simp [touchList]

theorem cnt_eject (t : Nat) (l : List Entry) (cur target : Nat) :
    List.count t (toks (eject l cur target).evicted) + List.count t (toks (eject l cur target).rest) = List.count t (toks l) := by
  rw [← List.count_append, ← toks_append, eject_append]

@[simp] theorem dropped_append (a b : List Ev) : droppedToks (a ++ b) = droppedToks a ++ droppedToks b := by
  induction a with
  | nil => rfl
  | cons e a ih =>
    cases e with
    | dropK t | dropV t => exact congrArg (t :: ·) ih
    | _ => exact ih

@[simp] theorem dropped_evict (l : List Entry) : droppedToks (evictAllEvs l) = toks l := by
  induction l with
  | nil => rfl
  | cons e l ih =>
    simp only [evictAllEvs, List.flatMap_cons, evictEvs] at *
    simp [droppedToks, ih]

@[simp] theorem dropped_rehash (l : List Entry) : droppedToks (rehashEvs l) = [] := by
  induction l with
  | nil => rfl
  | cons e l ih => simpa [rehashEvs, droppedToks] using ih

theorem dropped_rehash_take (l : List Entry) (m : Nat) : droppedToks ((rehashEvs l).take m) = [] := by
  rw [rehashEvs, ← List.map_take]; exact dropped_rehash _

theorem dropped_head_hash (l : List Entry) : droppedToks ((l.head?.map fun e => Ev.hash e.key.id).toList) = [] := by
  cases l <;> rfl

@[simp] theorem dropped_cloneEvs (l : List Entry) (b : Nat) : droppedToks (cloneEvs l b) = [] := by
  induction l generalizing b with
  | nil => rfl
  | cons e l ih => exact ih (b + 2)

@[simp] theorem dropped_dropAll (l : List Entry) : droppedToks (dropAllEvs l) = toks l := by
  induction l with
  | nil => rfl
  | cons e l ih =>
    simp only [dropAllEvs] at *
    simp [droppedToks, ih]

theorem cnt_retain {σ : Type} (t : Nat) (pr : σ → Key → Val → Bool × σ) (st : σ) (l : List Entry) :
    List.count t (toks (retainGo pr st l).kept) + List.count t (droppedToks (retainGo pr st l).evs) = List.count t (toks l) := by
  induction l generalizing st with
  | nil => rfl
  | cons e l ih =>
    have := ih (pr st e.key e.val).2
    simp only [retainGo]
    generalize retainGo pr (pr st e.key e.val).2 l = r at this ⊢
    by_cases hk : (pr st e.key e.val).1 = true
    · rw [if_pos hk]
      show List.count t (toks (e :: r.kept)) + List.count t (droppedToks r.evs) = _
      rw [toks_cons_append, toks_cons_append, List.count_append, List.count_append, Nat.add_assoc, this]
    · rw [if_neg hk]
      show List.count t (toks r.kept) + List.count t ([e.key.tok, e.val.tok] ++ droppedToks r.evs) = _
      rw [toks_cons_append, List.count_append, List.count_append, Nat.add_left_comm, this]

theorem cnt_iterCalls (t : Nat) (l : List Entry) (calls : List Bool) :
    List.count t (toks ((iterCalls l calls).1.filterMap id)) + List.count t (toks (iterCalls l calls).2) =
      List.count t (toks l) := by
  induction l, calls using iterCalls_ind with
  | nil l => exact Nat.zero_add _
  | empty calls => rw [(iterCalls_nil calls).1, (iterCalls_nil calls).2]; simp
  | front a l fs ih =>
    rw [iterCalls_front_cons]
    show List.count t (toks (a :: _)) + _ = _
    rw [toks_cons_append, toks_cons_append, List.count_append, List.count_append, Nat.add_assoc, ih]
  | back l z fs ih =>
    rw [iterCalls_back_snoc]
    show List.count t (toks (z :: _)) + _ = _
    rw [toks_cons_append, toks_append, List.count_append, List.count_append, Nat.add_assoc, ih]
    exact Nat.add_comm ..

theorem evCount_append {f : List Ev → Nat} (hnil : f [] = 0) (hcons : ∀ e l, f (e :: l) = f l + f [e]) (a b : List Ev) :
    f (a ++ b) = f a + f b := by
  induction a with
  | nil => rw [hnil, Nat.zero_add]; rfl
  | cons e a ih => rw [List.cons_append, hcons, hcons e a, ih, Nat.add_right_comm]

theorem evCount_flatMap {f : List Ev → Nat} (hnil : f [] = 0) (happ : ∀ a b, f (a ++ b) = f a + f b) {α : Type}
    (h : α → List Ev) (n : Nat) (hn : ∀ x, f (h x) = n) (l : List α) : f (l.flatMap h) = n * l.length := by
  induction l with
  | nil => exact hnil
  | cons x l ih => rw [List.flatMap_cons, happ, hn, ih, List.length_cons, Nat.mul_succ, Nat.add_comm]

@[simp] theorem hashCount_append (a b : List Ev) : hashCount (a ++ b) = hashCount a + hashCount b :=
  evCount_append rfl (fun e _ => by cases e <;> rfl) a b

@[simp] theorem hashCount_evict (l : List Entry) : hashCount (evictAllEvs l) = l.length :=
  (evCount_flatMap rfl hashCount_append evictEvs 1 (fun _ => rfl) l).trans (Nat.one_mul _)

@[simp] theorem hashCount_rehash (l : List Entry) : hashCount (rehashEvs l) = l.length := by
  induction l with
  | nil => rfl
  | cons e l ih => exact congrArg (· + 1) ih

theorem hashCount_dropAll (l : List Entry) : hashCount (dropAllEvs l) = 0 :=
  (evCount_flatMap rfl hashCount_append _ 0 (fun _ => rfl) l).trans (Nat.zero_mul _)

end LruMem
