import LruMem.Proofs.Inv
namespace LruMem

/-- Caches reachable from a constructor by public operations (any oracle) and by cloning. -/
inductive Reachable (p : Params) : Cache → Prop
  | new (max n : Nat) : Reachable p (Cache.withCapacity max n)
  | step {c : Cache} (op : Op) (o : Oracle) : Reachable p c → Reachable p (step p c op o).cache
  | clone {c : Cache} (base : Nat) : Reachable p c → Reachable p (clone c base).1

theorem Cache.new_eq (max : Nat) : Cache.new max = Cache.withCapacity max 0 := rfl

theorem reachable_inv {p : Params} {c : Cache} (h : Reachable p c) : InvA p c := by
  induction h with
  | new max n => exact new_inv p max n
  | step op o _ ih => exact step_inv op o ih
  | clone base _ ih => exact (clone_inv base ih).1

def runOps (p : Params) (c : Cache) : List (Op × Oracle) → Cache
  | [] => c
  | (op, o) :: rest => runOps p (step p c op o).cache rest

theorem reachable_runOps {p : Params} {c : Cache} (h : Reachable p c) (l : List (Op × Oracle)) :
    Reachable p (runOps p c l) := by
  induction l generalizing c with
  | nil => exact h
  | cons a l ih => exact ih (Reachable.step a.1 a.2 h)

end LruMem
