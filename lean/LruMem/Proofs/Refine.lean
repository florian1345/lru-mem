import LruMem.Proofs.Ptr
import LruMem.Proofs.Inv
/-!
# Refinement: every Level B operation preserves `Rep`, never touches dead memory, and its
abstraction is the Level A operation

Of the abstraction the pointer operations need only the weak invariant `InvW`: one entry per key, so
that a table lookup finds the listed node; total = sum of the recorded sizes, so that the eviction
loop stops where Level A's does.
-/
namespace LruMem
open LruMem.Chain

/-- Level B state `c` represents address list `l` and its abstraction satisfies the Level A invariant. -/
structure RefInv (p : Params) (c : CacheB) (l : List Nat) : Prop where
  rep : Rep c l
  inv : InvA p c.abs

/-- Level B state `c` represents address list `l` and its abstraction satisfies the weak invariant. -/
structure RefW (c : CacheB) (l : List Nat) : Prop where
  rep : Rep c l
  inv : InvW c.abs

theorem RefInv.toW {p : Params} {c : CacheB} {l : List Nat} (h : RefInv p c l) : RefW c l := ⟨h.rep, h.inv.weak⟩

/-- Both levels branch on the same condition; `f` is the projection to the cache of a Level A result. -/
theorem refines_ite {α : Type} (f : α → Cache) {P : Prop} [Decidable P] {a b : CacheB} {r s : α}
    (h1 : P → ∃ l', Rep a l' ∧ a.abs = f r) (h2 : ¬P → ∃ l', Rep b l' ∧ b.abs = f s) :
    ∃ l', Rep (if P then a else b) l' ∧ (if P then a else b).abs = f (if P then r else s) := by
  by_cases h : P
  · rw [if_pos h, if_pos h]; exact h1 h
  · rw [if_neg h, if_neg h]; exact h2 h

theorem Rep.abs_eq {c : CacheB} {l : List Nat} (r : Rep c l) :
    c.abs = { entries := l.map c.ent, cur := c.cur, max := c.max, shape := c.shape } := by
  simp [CacheB.abs, r.order]

theorem Rep.abs_entries {c : CacheB} {l : List Nat} (r : Rep c l) : c.abs.entries = l.map c.ent :=
  congrArg Cache.entries r.abs_eq

theorem Rep.length_abs {c : CacheB} {l : List Nat} (r : Rep c l) : c.abs.entries.length = c.table.length := by
  rw [r.abs_entries, List.length_map, r.length]

@[simp] theorem CacheB.abs_cur (c : CacheB) : c.abs.cur = c.cur := rfl
@[simp] theorem CacheB.abs_max (c : CacheB) : c.abs.max = c.max := rfl
@[simp] theorem CacheB.abs_shape (c : CacheB) : c.abs.shape = c.shape := rfl
theorem CacheB.abs_withMax (c : CacheB) (m : Nat) : ({ c with max := m } : CacheB).abs = { c.abs with max := m } := by cases c; rfl

theorem Rep.node {c : CacheB} {l1 l2 : List Nat} {x : Nat} (r : Rep c (l1 ++ x :: l2))
    (hn : (ids c.abs.entries).Nodup) :
    lookup c.abs.entries (c.ent x).key.id = some (c.ent x) ∧
    removeId c.abs.entries (c.ent x).key.id = (l1 ++ l2).map c.ent := by
  rw [r.abs_entries, List.map_append, List.map_cons] at hn ⊢
  refine ⟨lookup_of_mem hn (List.mem_append_right _ (List.mem_cons_self ..)), ?_⟩
  rw [ids_append, ids_cons] at hn
  rw [removeId_middle fun h => (List.nodup_append.mp hn).2.2 _ h _ (List.mem_cons_self ..) rfl, List.map_append]

theorem find_cases {c : CacheB} {l : List Nat} (r : Rep c l) (id : Nat) :
    (c.find id = none ∧ lookup c.abs.entries id = none) ∨
    ∃ x l1 l2, c.find id = some x ∧ l = l1 ++ x :: l2 ∧ (c.ent x).key.id = id := by
  cases hf : c.find id with
  | none =>
    refine Or.inl ⟨rfl, lookup_none_iff.mpr fun hm => ?_⟩
    obtain ⟨e, he, hid⟩ := mem_ids.mp hm
    obtain ⟨a, ha, rfl⟩ := List.mem_map.mp (r.abs_entries ▸ he)
    exact List.find?_eq_none.mp hf a (r.table.mem_iff.mpr ha) (beq_iff_eq.mpr hid)
  | some x =>
    obtain ⟨l1, l2, e⟩ := List.append_of_mem (r.table.mem_iff.mp (List.mem_of_find?_eq_some hf))
    exact Or.inr ⟨x, l1, l2, rfl, e, by simpa using List.find?_some hf⟩

theorem find_none_of_lookup {c : CacheB} {l : List Nat} (r : Rep c l) (id : Nat)
    (h : lookup (l.map c.ent) id = none) : c.find id = none := by
  rcases find_cases r id with ⟨hf, _⟩ | ⟨x, l1, l2, _, rfl, rfl⟩
  · exact hf
  · exact absurd (mem_ids.mpr ⟨_, List.mem_map_of_mem (List.mem_append_right _ (List.mem_cons_self ..)), rfl⟩)
      (lookup_none_iff.mp h)

theorem find_agreesW {c : CacheB} {l : List Nat} (h : RefW c l) (a : Nat) (ha : a ∈ l) :
    c.find (c.ent a).key.id = some a := by
  have hnd := h.inv.nodup
  rcases find_cases h.rep (c.ent a).key.id with ⟨_, hl⟩ | ⟨x, l1, l2, hf, rfl, hid⟩
  · exact absurd (mem_ids.mpr ⟨_, h.rep.abs_entries ▸ List.mem_map_of_mem ha, rfl⟩) (lookup_none_iff.mp hl)
  · rw [h.rep.abs_entries, ids, List.map_map] at hnd
    rw [hf, inj_of_nodup_map _ _ hnd x List.mem_append_cons_self a ha hid]

theorem touchPtr_abs {c : CacheB} {l1 l2 : List Nat} {x : Nat} (r : Rep c (l1 ++ x :: l2))
    (hn : (ids c.abs.entries).Nodup) :
    Rep (c.touchPtr x) (l1 ++ l2 ++ [x]) ∧
    (c.touchPtr x).abs = { c.abs with entries := touchList c.abs.entries (c.ent x) } := by
  have r' := touchPtr_rep r
  refine ⟨r', ?_⟩
  rw [r'.abs_eq, touchList, (r.node hn).2, List.map_append]
  cases c; rfl

theorem removeAt_abs {c : CacheB} {l1 l2 : List Nat} {x : Nat} (t : Nat) (r : Rep c (l1 ++ x :: l2))
    (hn : (ids c.abs.entries).Nodup) :
    Rep (c.removeAt x t) (l1 ++ l2) ∧
    (c.removeAt x t).abs = { c.abs with entries := removeId c.abs.entries (c.ent x).key.id,
                                        cur := c.abs.cur - (c.ent x).size, shape := c.abs.shape.remove 1 t } := by
  have r' := (removeAt_rep t r).1
  refine ⟨r', ?_⟩
  rw [r'.abs_eq, (r.node hn).2]
  cases c; rfl

theorem insertFresh_abs {c : CacheB} {l : List Nat} (e : Entry) (reuse : Bool) (r : Rep c l) :
    Rep (c.insertFresh e reuse) (l ++ [c.fresh]) ∧
    (c.insertFresh e reuse).abs = { c.abs with entries := c.abs.entries ++ [e], cur := c.abs.cur + e.size,
                                               shape := c.abs.shape.inserted reuse } := by
  have r' := insertFresh_rep e reuse r
  refine ⟨r', ?_⟩
  rw [r'.abs_eq, r.abs_entries]
  show Cache.mk ((l ++ [c.fresh]).map fun y => if y = c.fresh then e else c.ent y) _ _ _ = _
  rw [List.map_append, List.map_congr_left fun a ha => if_neg (Nat.ne_of_lt (r.lt_fresh (.tail _ ha))), List.map_singleton,
    if_pos rfl]
  rfl

theorem reallocate_refines {c : CacheB} {l : List Nat} (n : Nat) (r : Rep c l) :
    ∃ l', Rep (c.reallocate n) l' ∧ (c.reallocate n).abs = (rebuild c.abs n).1 := by
  obtain ⟨l1, r1, hent1, hc1, hm1, _, _⟩ := reallocate_rep n r
  exact ⟨l1, r1, by rw [r1.abs_eq, hent1, hc1, hm1, r.abs_eq]; rfl⟩

theorem endPtr_eq {o : Option Nat} {s p : Nat} (hp : p = o.getD s) (h : ∀ z, o = some z → z ≠ s) :
    (if p = s then none else some p) = o := by
  subst hp
  cases o with
  | none => exact if_pos rfl
  | some z => exact if_neg (h z rfl)

theorem ends_spec {c : CacheB} {l : List Nat} (r : Rep c l) :
    c.lruPtr = l.head? ∧ c.mruPtr = l.getLast? :=
  ⟨endPtr_eq (seal_ends r.chain).1 fun _ hz e => r.sl_not_mem (e ▸ List.mem_of_mem_head? hz),
    endPtr_eq (seal_ends r.chain).2 fun _ hz e => r.sl_not_mem (e ▸ List.mem_of_getLast? hz)⟩

theorem getEntry_refines {c : CacheB} {l : List Nat} (id : Nat) (h : RefW c l) :
    ∃ l', Rep (c.getEntry id) l' ∧ (c.getEntry id).abs = (getEntry c.abs id).cache := by
  rw [CacheB.getEntry, getEntry]
  rcases find_cases h.rep id with ⟨hf, hl⟩ | ⟨x, l1, l2, hf, rfl, rfl⟩
  · rw [hf, hl]; exact ⟨l, h.rep, rfl⟩
  · rw [hf, (h.rep.node h.inv.nodup).1]; exact ⟨_, touchPtr_abs h.rep h.inv.nodup⟩

theorem removeEntry_refines {c : CacheB} {l : List Nat} (id : Nat) (o : Oracle) (h : RefW c l) :
    ∃ l', Rep (c.removeEntry id o) l' ∧ (c.removeEntry id o).abs = (removeEntry c.abs id o).cache := by
  rw [CacheB.removeEntry, removeEntry]
  rcases find_cases h.rep id with ⟨hf, hl⟩ | ⟨x, l1, l2, hf, rfl, rfl⟩
  · rw [hf, hl]; exact ⟨l, h.rep, rfl⟩
  · rw [hf, (h.rep.node h.inv.nodup).1]; exact ⟨_, removeAt_abs o.tombs h.rep h.inv.nodup⟩

theorem getLru_refines {c : CacheB} {l : List Nat} (h : RefW c l) :
    ∃ l', Rep c.getLru l' ∧ c.getLru.abs = (getLru c.abs).cache := by
  rw [CacheB.getLru, getLru, (ends_spec h.rep).1, h.rep.abs_entries]
  cases l with
  | nil => exact ⟨[], h.rep, rfl⟩
  | cons x l2 => exact ⟨_, h.rep.abs_entries ▸ touchPtr_abs (l1 := []) h.rep h.inv.nodup⟩

/-- A node is removed in the middle of a walk from the least recently used end (`pre = []`: an
eviction). The last two conjuncts: the link to the next node is then read out of the bucket just
vacated (`retain` does), which is a valid access and finds what was there before. -/
theorem removeAt_visit {c : CacheB} {pre cur : List Nat} {x : Nat} (t : Nat) (h : RefW c (pre ++ x :: cur)) :
    RefW (c.removeAt x t) (pre ++ cur) ∧
    (c.removeAt x t).abs = { c.abs with entries := pre.map c.ent ++ cur.map c.ent,
                                        cur := c.abs.cur - (c.ent x).size, shape := c.abs.shape.remove 1 t } ∧
    (c.removeAt x t).check ((c.removeAt x t).readable x) = c.removeAt x t ∧
    ((c.removeAt x t).links x).prev = (cur.head?).getD (c.removeAt x t).sl := by
  obtain ⟨r1, e⟩ := removeAt_abs t h.rep h.inv.nodup
  obtain ⟨hl, hrm⟩ := h.rep.node h.inv.nodup
  refine ⟨⟨r1, e ▸ h.inv.removed hl⟩, by rw [e, hrm, List.map_append], ?_, by rw [(removeAt_rep t h.rep).2, h.rep.prev_of]; rfl⟩
  rw [CacheB.readable, removeAt_st, if_pos rfl]; exact check_true _

theorem evictN_abs (k : Nat) : ∀ {l : List Nat} {c : CacheB} (tomb : Nat), RefW c l → k ≤ l.length →
    Rep (c.evictN k tomb) (l.drop k) ∧
    (c.evictN k tomb).abs = { c.abs with entries := c.abs.entries.drop k,
                                         cur := subSizes c.abs.cur (c.abs.entries.take k),
                                         shape := c.abs.shape.remove k tomb } := by
  induction k with
  | zero => exact fun tomb h _ => ⟨h.rep, by rw [Shape.remove_zero]; rfl⟩
  | succ k ih =>
    intro l c tomb h hk
    cases l with
    | nil => cases hk
    | cons a l =>
      obtain ⟨h1, e1, -, -⟩ := removeAt_visit (pre := []) tomb h
      obtain ⟨r2, e2⟩ := ih (tomb - 1) h1 (Nat.le_of_succ_le_succ hk)
      have he : c.lruPtr = some a := (ends_spec h.rep).1
      rw [show c.evictN (k + 1) tomb = (c.removeAt a tomb).evictN k (tomb - 1) by rw [CacheB.evictN, he]]
      refine ⟨r2, ?_⟩
      rw [e2, e1, h.rep.abs_entries, Shape.remove_succ]
      rfl

theorem ejectTo_eq_evictN {target : Nat} (l : List Nat) : ∀ {c : CacheB} (tomb fuel : Nat), RefW c l → l.length < fuel →
    c.ejectTo fuel target tomb = c.evictN (need c.abs.entries target) tomb := by
  induction l with
  | nil =>
    intro c tomb fuel h hf
    obtain ⟨fuel, rfl⟩ := Nat.exists_eq_succ_of_ne_zero (Nat.ne_of_gt hf)
    rw [CacheB.ejectTo, (ends_spec h.rep).1, h.rep.abs_entries]
    exact ite_self _
  | cons a l ih =>
    intro c tomb fuel h hf
    obtain ⟨fuel, rfl⟩ := Nat.exists_eq_succ_of_ne_zero (Nat.ne_of_gt (Nat.zero_lt_of_lt hf))
    obtain ⟨h1, e1, -, -⟩ := removeAt_visit (pre := []) tomb h
    have he : c.lruPtr = some a := (ends_spec h.rep).1
    have hc : c.cur = (c.ent a).size + sumSizes (l.map c.ent) := by
      have := h.inv.cur; rwa [h.rep.abs_entries] at this
    rw [CacheB.ejectTo, h.rep.abs_entries, List.map_cons, need_cons, ← hc]
    by_cases hgt : c.cur > target
    · rw [if_pos hgt, if_neg (Nat.not_le.mpr hgt), CacheB.evictN, he]
      show CacheB.ejectTo fuel (c.removeAt a tomb) target (tomb - 1) = _
      rw [ih (tomb - 1) fuel h1 (Nat.lt_of_succ_lt_succ hf), e1]
      rfl
    · rw [if_neg hgt, if_pos (Nat.not_lt.mp hgt)]; rfl

theorem ejectTo_abs {c : CacheB} {l : List Nat} (target tomb : Nat) (h : RefW c l) :
    ∃ l', Rep (c.ejectTo (c.table.length + 1) target tomb) l' ∧
      (c.ejectTo (c.table.length + 1) target tomb).abs =
        { c.abs with entries := (eject c.abs.entries c.abs.cur target).rest,
                     cur := (eject c.abs.entries c.abs.cur target).cur,
                     shape := c.abs.shape.remove (eject c.abs.entries c.abs.cur target).evicted.length tomb } := by
  have hlen := need_le_length c.abs.entries target
  obtain ⟨r', e⟩ := evictN_abs (need c.abs.entries target) tomb h (h.rep.length_abs.trans h.rep.length ▸ hlen)
  rw [ejectTo_eq_evictN l tomb _ h (by rw [h.rep.length]; exact Nat.lt_succ_self _), eject_eq h.inv.cur]
  refine ⟨_, r', ?_⟩
  rw [e, subSizes_take _ _ _ h.inv.cur, List.length_take, Nat.min_eq_left hlen]

/-- Level B's count of evictions (the table shrinks by one per eviction) is Level A's. -/
theorem ejectTo_length {c : CacheB} {l : List Nat} (target tomb : Nat) (h : RefW c l) :
    c.table.length - (c.ejectTo (c.table.length + 1) target tomb).table.length =
      (eject c.abs.entries c.abs.cur target).evicted.length := by
  obtain ⟨l', r', e⟩ := ejectTo_abs target tomb h
  rw [← r'.length_abs, e, ← h.rep.length_abs, ← eject_length c.abs.entries c.abs.cur target]
  exact Nat.add_sub_cancel ..

theorem setMaxSize_refines {c : CacheB} {l : List Nat} (m : Nat) (o : Oracle) (h : RefW c l) :
    ∃ l', Rep (c.setMaxSize m o) l' ∧ (c.setMaxSize m o).abs = (setMaxSize c.abs m o).cache := by
  obtain ⟨l', r', e⟩ := ejectTo_abs m o.tombs h
  refine ⟨l', ?_, ?_⟩
  · unfold CacheB.setMaxSize
    exact ⟨r'.chain, r'.full, r'.sealSt, r'.oneSeal, r'.owns, r'.table, r'.freshDead, r'.noUb⟩
  · rw [CacheB.setMaxSize, CacheB.abs_withMax, e]; rfl

theorem insertUnchecked_refines {c : CacheB} {l : List Nat} (e : Entry) (o : Oracle) (r : Rep c l) :
    ∃ l', Rep (c.insertUnchecked e o) l' ∧ (c.insertUnchecked e o).abs = (insertUnchecked c.abs e o).cache := by
  refine refines_ite Grown.cache (fun _ => ⟨_, insertFresh_abs e o.reuse r⟩) fun _ => ?_
  obtain ⟨l1, r1, e1⟩ := reallocate_refines (Nat.max (2 * c.shape.capacity) 1) r
  obtain ⟨r', e'⟩ := insertFresh_abs e false r1
  rw [if_pos c.abs.shape.doubled.2]
  exact ⟨_, r', by rw [e', e1]; rfl⟩

theorem new_rep (max n : Nat) : Rep (CacheB.new max n) [] := by
  have hst : ∀ a, (CacheB.new max n).st a = if a = 1 then .sealed else .dead := fun _ => rfl
  refine Rep.empty rfl rfl (fun a => ?_) (fun a ha => ?_) (fun a ha => ?_) rfl rfl
  · rw [hst]; split <;> nofun
  · exact Decidable.byContradiction fun (h : a ≠ 1) => by rw [hst, if_neg h] at ha; cases ha
  · rw [hst, if_neg (Nat.ne_of_gt ha)]

theorem new_abs (max n : Nat) : (CacheB.new max n).abs = Cache.withCapacity max n := by
  rw [(new_rep max n).abs_eq]; rfl

theorem new_refinv (p : Params) (max n : Nat) : RefInv p (CacheB.new max n) [] :=
  ⟨new_rep max n, new_abs max n ▸ new_inv p max n⟩

/-- The last conjunct is the tombstone budget `insert` passes on to its eviction loop (Model/Ptr.lean
`insert`). -/
theorem dedupe_refines {c : CacheB} {l : List Nat} (id : Nat) (t : Nat) (h : RefW c l) :
    ∃ l1, RefW (c.dedupe id t) l1 ∧
      (c.dedupe id t).abs =
        { c.abs with entries := removeId c.abs.entries id, cur := c.abs.cur - oldSize (lookup c.abs.entries id),
                     shape := c.abs.shape.remove (oldCount (lookup c.abs.entries id)) t } ∧
      (if (c.find id).isSome then t - 1 else t) = t - oldCount (lookup c.abs.entries id) := by
  unfold CacheB.dedupe
  rcases find_cases h.rep id with ⟨hf, hl⟩ | ⟨x, l1, l2, hf, rfl, rfl⟩
  · rw [hf, hl]
    refine ⟨l, h, ?_, rfl⟩
    simp only [oldSize, oldCount, removeId_of_not_mem (lookup_none_iff.mp hl), Shape.remove_zero, Nat.sub_zero]
  · obtain ⟨r', e⟩ := removeAt_abs t h.rep h.inv.nodup
    have hl := (h.rep.node h.inv.nodup).1
    rw [hf, hl]
    exact ⟨_, ⟨r', e ▸ h.inv.removed hl⟩, e, rfl⟩

theorem insert_refines {p : Params} {c : CacheB} {l : List Nat} (k : Key) (v : Val) (o : Oracle) (h : RefW c l) :
    ∃ l', Rep (c.insert p k v o) l' ∧ (c.insert p k v o).abs = (insert p c.abs k v o).cache := by
  by_cases hs : entrySize p k v > c.max
  · rw [insert_too_large (c := c.abs) k v o hs, CacheB.insert, if_pos hs]; exact ⟨l, h.rep, rfl⟩
  · obtain ⟨l1, h1, e1, htomb⟩ := dedupe_refines k.id o.tombs h
    obtain ⟨l2, r2, e2⟩ := ejectTo_abs (c.max - entrySize p k v) (o.tombs - oldCount (lookup c.abs.entries k.id)) h1
    obtain ⟨l3, r3, e3⟩ := insertUnchecked_refines ⟨k, v, entrySize p k v⟩ o r2
    simp only [CacheB.insert, hs, if_false, htomb]
    refine ⟨l3, r3, ?_⟩
    simp only [e3, e2, e1, insert_eq k v o h.inv (Nat.le_of_not_gt hs), Cache.madeRoom, CacheB.abs_max]
    -- Level B takes the entries out in two stages (the one of the same key, then the evictions), Level A in one bulk `remove`
    rw [Shape.remove_add]

theorem tryInsert_refines {p : Params} {c : CacheB} {l : List Nat} (k : Key) (v : Val) (o : Oracle) (h : RefW c l) :
    ∃ l', Rep (c.tryInsert p k v o) l' ∧ (c.tryInsert p k v o).abs = (tryInsert p c.abs k v o).cache := by
  refine refines_ite Res.cache (fun _ => ⟨l, h.rep, rfl⟩) fun _ => refines_ite Res.cache (fun _ => ⟨l, h.rep, rfl⟩) fun _ => ?_
  rcases find_cases h.rep k.id with ⟨hf, hl⟩ | ⟨x, l1, l2, hf, rfl, hid⟩
  · rw [hf, hl]
    exact refines_ite Res.cache nofun fun _ => insertUnchecked_refines ⟨k, v, entrySize p k v⟩ o h.rep
  · rw [hf, ← hid, (h.rep.node h.inv.nodup).1]
    exact refines_ite Res.cache (fun _ => ⟨_, h.rep, rfl⟩) fun hn => absurd rfl hn

theorem reserve_refines {p : Params} {c : CacheB} {l : List Nat} (a : Nat) (o : Oracle) (r : Rep c l) :
    ∃ l', Rep (c.reserve p a o) l' ∧ (c.reserve p a o).abs = (reserve p c.abs a o).cache :=
  refines_ite Res.cache (fun _ => ⟨l, r, rfl⟩) fun _ => refines_ite Res.cache
    (fun _ => refines_ite Res.cache (fun _ => reallocate_refines _ r) fun _ => ⟨l, r, rfl⟩) fun _ => ⟨l, r, rfl⟩

/-- `try_reserve` differs from `reserve` in what it reports, not in what it does. -/
theorem tryReserve_refines {p : Params} {c : CacheB} {l : List Nat} (a : Nat) (o : Oracle) (r : Rep c l) :
    ∃ l', Rep (c.reserve p a o) l' ∧ (c.reserve p a o).abs = (tryReserve p c.abs a o).cache := by
  have e : (tryReserve p c.abs a o).cache = (reserve p c.abs a o).cache := by
    rw [reserve_eq, tryReserve_eq]
    by_cases hm : reserveMoves p c.abs.shape a o = true
    · rw [if_pos hm, if_pos hm]
    · rw [if_neg hm, if_neg hm]
  rw [e]; exact reserve_refines a o r

theorem shrinkTo_refines {p : Params} {c : CacheB} {l : List Nat} (m : Nat) (o : Oracle) (r : Rep c l) :
    ∃ l', Rep (c.shrinkTo p m o) l' ∧ (c.shrinkTo p m o).abs = (shrinkTo p c.abs m o).cache :=
  refines_ite Res.cache (fun _ => refines_ite Res.cache
    (fun _ => refines_ite Res.cache (fun _ => reallocate_refines _ r) fun _ => ⟨l, r, rfl⟩) fun _ => ⟨l, r, rfl⟩)
    fun _ => ⟨l, r, rfl⟩

end LruMem
