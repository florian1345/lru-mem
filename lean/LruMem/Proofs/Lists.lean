import LruMem.Model.Step
namespace LruMem

@[simp] theorem sumSizes_nil : sumSizes [] = 0 := rfl
@[simp] theorem sumSizes_cons (e : Entry) (l : List Entry) : sumSizes (e :: l) = e.size + sumSizes l := rfl

theorem sumSizes_perm {l l' : List Entry} (h : l.Perm l') : sumSizes l = sumSizes l' := by
  induction h with
  | nil => rfl
  | cons x _ ih => rw [sumSizes_cons, sumSizes_cons, ih]
  | swap x y l => exact Nat.add_left_comm ..
  | trans _ _ ih1 ih2 => exact ih1.trans ih2

@[simp] theorem sumSizes_append (l₁ l₂ : List Entry) :
    sumSizes (l₁ ++ l₂) = sumSizes l₁ + sumSizes l₂ := by
  induction l₁ with
  | nil => simp
  | cons e l ih => simp [ih, Nat.add_assoc]

@[simp] theorem ids_nil : ids [] = [] := rfl
@[simp] theorem ids_cons (e : Entry) (l : List Entry) : ids (e :: l) = e.key.id :: ids l := rfl
@[simp] theorem ids_append (l₁ l₂ : List Entry) : ids (l₁ ++ l₂) = ids l₁ ++ ids l₂ := by
  simp [ids]

theorem mem_ids {l : List Entry} {id : Nat} : id ∈ ids l ↔ ∃ e ∈ l, e.key.id = id := by
  simp [ids]

@[simp] theorem lookup_nil (id : Nat) : lookup [] id = none := rfl

theorem lookup_cons (e : Entry) (l : List Entry) (id : Nat) :
    lookup (e :: l) id = if e.key.id = id then some e else lookup l id := rfl

theorem lookup_some_mem {l : List Entry} {id : Nat} {e : Entry} (h : lookup l id = some e) :
    e ∈ l ∧ e.key.id = id := by
  induction l with
  | nil => cases h
  | cons a l ih =>
    by_cases hid : a.key.id = id
    · rw [lookup_cons, if_pos hid] at h; cases h; exact ⟨List.mem_cons_self .., hid⟩
    · rw [lookup_cons, if_neg hid] at h; exact ⟨List.mem_cons_of_mem _ (ih h).1, (ih h).2⟩

theorem lookup_key {l : List Entry} {id : Nat} {e : Entry} (h : lookup l id = some e) : lookup l e.key.id = some e :=
  (lookup_some_mem h).2.symm ▸ h

theorem lookup_none_iff {l : List Entry} {id : Nat} : lookup l id = none ↔ id ∉ ids l := by
  induction l with
  | nil => exact iff_of_true rfl (List.not_mem_nil)
  | cons a l ih =>
    by_cases hid : a.key.id = id
    · rw [lookup_cons, if_pos hid]
      exact iff_of_false (fun h => nomatch h) fun h => h (hid ▸ List.mem_cons_self ..)
    · rw [lookup_cons, if_neg hid, ih, ids_cons, List.mem_cons, not_or]
      exact ⟨fun h => ⟨fun e => hid e.symm, h⟩, fun h => h.2⟩

theorem lookup_isSome_iff {l : List Entry} {id : Nat} : (lookup l id).isSome ↔ id ∈ ids l := by
  cases h : lookup l id with
  | none => exact iff_of_false Bool.false_ne_true (lookup_none_iff.mp h)
  | some e => exact iff_of_true rfl (mem_ids.mpr ⟨e, lookup_some_mem h⟩)

theorem lookup_of_mem {l : List Entry} (hn : (ids l).Nodup) {e : Entry} (he : e ∈ l) :
    lookup l e.key.id = some e := by
  induction l with
  | nil => cases he
  | cons a l ih =>
    rw [ids_cons, List.nodup_cons] at hn
    rcases List.mem_cons.mp he with rfl | h
    · exact if_pos rfl
    · rw [lookup_cons, if_neg fun (heq : a.key.id = e.key.id) => hn.1 (heq ▸ mem_ids.mpr ⟨e, h, rfl⟩)]
      exact ih hn.2 h

theorem lookup_append (l₁ l₂ : List Entry) (id : Nat) :
    lookup (l₁ ++ l₂) id = (lookup l₁ id).or (lookup l₂ id) := by
  induction l₁ with
  | nil => rfl
  | cons a l ih =>
    by_cases hid : a.key.id = id
    · rw [List.cons_append, lookup_cons, lookup_cons, if_pos hid, if_pos hid]; rfl
    · rw [List.cons_append, lookup_cons, lookup_cons, if_neg hid, if_neg hid, ih]

@[simp] theorem removeId_nil (id : Nat) : removeId [] id = [] := rfl

theorem removeId_cons (e : Entry) (l : List Entry) (id : Nat) :
    removeId (e :: l) id = if e.key.id = id then l else e :: removeId l id := rfl

theorem removeId_of_not_mem {l : List Entry} {id : Nat} (h : id ∉ ids l) : removeId l id = l := by
  induction l with
  | nil => rfl
  | cons a l ih =>
    rw [ids_cons, List.mem_cons, not_or] at h
    rw [removeId_cons, if_neg fun x => h.1 x.symm, ih h.2]

theorem removeId_middle {l1 l2 : List Entry} {e : Entry} (h : e.key.id ∉ ids l1) :
    removeId (l1 ++ e :: l2) e.key.id = l1 ++ l2 := by
  induction l1 with
  | nil => exact if_pos rfl
  | cons a l1 ih =>
    rw [ids_cons, List.mem_cons, not_or] at h
    rw [List.cons_append, removeId_cons, if_neg (Ne.symm h.1), ih h.2]; rfl

theorem removeId_sublist (l : List Entry) (id : Nat) : (removeId l id).Sublist l := by
  induction l with
  | nil => exact List.Sublist.refl _
  | cons a l ih =>
    rw [removeId_cons]
    split
    · exact List.sublist_cons_self _ _
    · exact ih.cons_cons _

theorem mem_removeId_of {l : List Entry} {id : Nat} {e : Entry} (h : e ∈ removeId l id) : e ∈ l :=
  (removeId_sublist l id).subset h

theorem nodup_removeId {l : List Entry} (h : (ids l).Nodup) (id : Nat) : (ids (removeId l id)).Nodup :=
  ((removeId_sublist l id).map _).nodup h

theorem not_mem_ids_removeId {l : List Entry} (h : (ids l).Nodup) (id : Nat) : id ∉ ids (removeId l id) := by
  induction l with
  | nil => simp
  | cons a l ih =>
    simp only [ids_cons, List.nodup_cons] at h
    rw [removeId_cons]
    split
    · rename_i heq; rw [← heq]; exact h.1
    · rename_i hne
      simp only [ids_cons, List.mem_cons, not_or]
      exact ⟨fun x => hne x.symm, ih h.2⟩

theorem sumSizes_removeId (l : List Entry) (id : Nat) :
    sumSizes (removeId l id) + oldSize (lookup l id) = sumSizes l := by
  induction l with
  | nil => rfl
  | cons a l ih =>
    by_cases hid : a.key.id = id
    · rw [removeId_cons, lookup_cons, if_pos hid, if_pos hid]; exact Nat.add_comm _ _
    · rw [removeId_cons, lookup_cons, if_neg hid, if_neg hid, sumSizes_cons, sumSizes_cons, Nat.add_assoc, ih]

theorem length_removeId (l : List Entry) (id : Nat) :
    (removeId l id).length + oldCount (lookup l id) = l.length := by
  induction l with
  | nil => rfl
  | cons a l ih =>
    by_cases hid : a.key.id = id
    · rw [removeId_cons, lookup_cons, if_pos hid, if_pos hid]; rfl
    · rw [removeId_cons, lookup_cons, if_neg hid, if_neg hid, List.length_cons, List.length_cons, Nat.add_right_comm, ih]

theorem removeId_of_lookup {l : List Entry} {id : Nat} {e : Entry} (h : lookup l id = some e) :
    sumSizes (removeId l id) + e.size = sumSizes l ∧ (removeId l id).length + 1 = l.length := by
  have h1 := sumSizes_removeId l id
  have h2 := length_removeId l id
  rw [h] at h1 h2
  exact ⟨h1, h2⟩

theorem nodup_append_new {l : List Entry} (hn : (ids l).Nodup) {x : Entry} (hx : x.key.id ∉ ids l) :
    (ids (l ++ [x])).Nodup :=
  ids_append .. ▸ (List.perm_append_singleton ..).symm.nodup (List.nodup_cons.mpr ⟨hx, hn⟩)

theorem length_touchList {l : List Entry} {e e' : Entry} (h : lookup l e'.key.id = some e) :
    (touchList l e').length = l.length := by
  simp only [touchList, List.length_append, List.length_singleton]; exact (removeId_of_lookup h).2

theorem nodup_touchList {l : List Entry} (hn : (ids l).Nodup) (e : Entry) : (ids (touchList l e)).Nodup :=
  nodup_append_new (nodup_removeId hn _) (not_mem_ids_removeId hn _)

theorem lookup_removeId_ne (l : List Entry) {id id' : Nat} (h : id' ≠ id) :
    lookup (removeId l id) id' = lookup l id' := by
  induction l with
  | nil => rfl
  | cons a l ih =>
    by_cases heq : a.key.id = id
    · rw [removeId_cons, if_pos heq, lookup_cons, if_neg fun e => h (e.symm.trans heq)]
    · rw [removeId_cons, if_neg heq, lookup_cons, lookup_cons, ih]

theorem lookup_removeId_self {l : List Entry} (h : (ids l).Nodup) (id : Nat) :
    lookup (removeId l id) id = none :=
  lookup_none_iff.mpr (not_mem_ids_removeId h id)

theorem mem_removeId {l : List Entry} (hn : (ids l).Nodup) {id : Nat} {e : Entry} :
    e ∈ removeId l id ↔ e ∈ l ∧ e.key.id ≠ id := by
  refine ⟨fun h => ⟨mem_removeId_of h, fun heq => not_mem_ids_removeId hn id (mem_ids.mpr ⟨e, h, heq⟩)⟩, fun h => ?_⟩
  clear hn
  induction l with
  | nil => cases h.1
  | cons a l ih =>
    rw [removeId_cons]
    split
    · exact (List.mem_cons.mp h.1).resolve_left fun heq => h.2 (heq ▸ ‹a.key.id = id›)
    · exact (List.mem_cons.mp h.1).elim (· ▸ List.mem_cons_self ..) fun h' => List.mem_cons_of_mem _ (ih ⟨h', h.2⟩)

theorem inj_of_nodup_map {α β : Type} (f : α → β) (l : List α) (h : (l.map f).Nodup) :
    ∀ a ∈ l, ∀ b ∈ l, f a = f b → a = b :=
  have hp := List.pairwise_map.mp h
  fun _ ha _ hb => List.Pairwise.forall_of_forall_of_flip (R := fun a b => f a = f b → a = b) (fun _ _ _ => rfl)
    (hp.imp fun hne he => absurd he hne) (hp.imp fun hne he => absurd he.symm hne) ha hb

theorem iterCalls_nil (calls : List Bool) :
    (iterCalls [] calls).1 = List.replicate calls.length none ∧ (iterCalls [] calls).2 = [] := by
  induction calls with
  | nil => exact ⟨rfl, rfl⟩
  | cons f fs ih =>
    simp [iterCalls, iterStep, ih.1, ih.2, List.replicate_succ]

theorem iterCalls_front_cons (a : Entry) (l : List Entry) (fs : List Bool) :
    iterCalls (a :: l) (true :: fs) = (some a :: (iterCalls l fs).1, (iterCalls l fs).2) := by
  simp [iterCalls, iterStep]

theorem iterCalls_back_snoc (l : List Entry) (z : Entry) (fs : List Bool) :
    iterCalls (l ++ [z]) (false :: fs) = (some z :: (iterCalls l fs).1, (iterCalls l fs).2) := by
  simp [iterCalls, iterStep]

/-- Induction along `iterCalls`: no call left; no entry left; a call at the front; a call at the back. -/
theorem iterCalls_ind {motive : List Entry → List Bool → Prop} (nil : ∀ l, motive l [])
    (empty : ∀ calls, motive [] calls) (front : ∀ a l fs, motive l fs → motive (a :: l) (true :: fs))
    (back : ∀ l z fs, motive l fs → motive (l ++ [z]) (false :: fs)) : ∀ l calls, motive l calls := by
  intro l calls
  induction calls generalizing l with
  | nil => exact nil l
  | cons f fs ih =>
    by_cases hl : l = []
    · exact hl ▸ empty _
    · cases f with
      | true => obtain ⟨a, l', rfl⟩ := List.exists_cons_of_ne_nil hl; exact front a l' fs (ih l')
      | false =>
        obtain ⟨init, z, rfl⟩ := (List.eq_nil_or_concat l).resolve_left hl
        exact List.concat_eq_append .. ▸ back init z fs (ih init)

theorem mem_touchList {l : List Entry} {e x : Entry} (hx : x ∈ touchList l e) : x ∈ l ∨ x = e := by
  rcases List.mem_append.mp hx with hx | hx
  · exact Or.inl (mem_removeId_of hx)
  · exact Or.inr (List.mem_singleton.mp hx)

theorem lookup_sublist {l' l : List Entry} (hs : l'.Sublist l) (hn : (ids l).Nodup) {id : Nat} {e : Entry}
    (h : lookup l' id = some e) : lookup l id = some e := by
  obtain ⟨hm, hid⟩ := lookup_some_mem h
  have := lookup_of_mem hn (hs.subset hm)
  rw [hid] at this; exact this

theorem lookup_append_new {l : List Entry} {x : Entry} (hx : x.key.id ∉ ids l) (id : Nat) :
    lookup (l ++ [x]) id = if id = x.key.id then some x else lookup l id := by
  rw [lookup_append]
  by_cases hid : id = x.key.id
  · rw [if_pos hid, hid, lookup_none_iff.mpr hx]; exact if_pos rfl
  · rw [if_neg hid, show lookup [x] id = none from if_neg (Ne.symm hid), Option.or_none]

theorem lookup_touchList {l : List Entry} (hn : (ids l).Nodup) {e : Entry} (he : lookup l e.key.id = some e)
    (id : Nat) : lookup (touchList l e) id = lookup l id := by
  rw [touchList, lookup_append_new (not_mem_ids_removeId hn _)]
  by_cases hid : id = e.key.id
  · rw [if_pos hid, hid, he]
  · rw [if_neg hid, lookup_removeId_ne _ hid]

theorem lookup_drop_of_some {l : List Entry} (hn : (ids l).Nodup) (n : Nat) {id : Nat} {e : Entry}
    (h : lookup (l.drop n) id = some e) : lookup l id = some e :=
  lookup_sublist (List.drop_sublist n l) hn h

theorem lookup_drop {l : List Entry} (hn : (ids l).Nodup) (n : Nat) (id : Nat) :
    lookup (l.drop n) id = if id ∈ ids (l.take n) then none else lookup l id := by
  have hsplit := lookup_append (l.take n) (l.drop n) id
  rw [List.take_append_drop] at hsplit
  by_cases hm : id ∈ ids (l.take n)
  · rw [if_pos hm, lookup_none_iff]
    rw [← List.take_append_drop n l, ids_append, List.nodup_append] at hn
    exact fun hd => hn.2.2 _ hm _ hd rfl
  · rw [if_neg hm, hsplit, lookup_none_iff.mpr hm]; rfl

end LruMem
