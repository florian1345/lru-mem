import LruMem.Proofs.Refine
/-!
# `Clone` at Level B (C14): the clone is a closed structure of its own

`cloneGo` copies each node *with the source's links* (as `Entry::clone` does) and then `set_head`
overwrites them before anything reads them. The source structure is not written at all (it is only an
argument).
-/
namespace LruMem

/-- one iteration of the clone loop -/
def CacheB.cloneNode (src d : CacheB) (cur base : Nat) : CacheB :=
  let e := src.ent cur
  let e' : Entry := { e with key := { e.key with tok := base }, val := { e.val with tok := base + 1 } }
  let a := d.fresh
  let d1 := { d with st := fun y => if y = a then .full else d.st y,
                     has := fun y => if y = a then true else d.has y,
                     ent := fun y => if y = a then e' else d.ent y,
                     links := fun y => if y = a then ⟨(src.links cur).prev + 1000000007, (src.links cur).next + 1000000007⟩ else d.links y,
                     table := d.table ++ [a],
                     shape := d.shape.inserted false,
                     fresh := a + 1 }
  CacheB.setHead d1 a

theorem cloneGo_succ (fuel : Nat) (src d : CacheB) (cur base : Nat) :
    CacheB.cloneGo (fuel + 1) src d cur base =
      if cur = src.sl then d else CacheB.cloneGo fuel src (src.cloneNode d cur base) (src.links cur).prev (base + 2) := rfl

theorem cloneNode_rep {src d : CacheB} {l : List Nat} (cur base : Nat) (r : Rep d l) :
    Rep (src.cloneNode d cur base) (l ++ [d.fresh]) ∧
    (src.cloneNode d cur base).abs =
      { d.abs with entries := d.abs.entries ++ cloneEntries [src.ent cur] base, shape := d.abs.shape.inserted false } := by
  have hne : ∀ a, a ∈ d.sl :: l → a ≠ d.fresh := fun a ha => Nat.ne_of_lt (r.lt_fresh ha)
  have rep' : Rep (src.cloneNode d cur base) (l ++ [d.fresh]) :=
    r.pushFresh id (fun _ => .rfl) (fun _ => .rfl) rfl rfl (fun y hy => if_neg hy) (fun _ => rfl) (fun _ => rfl) rfl rfl r.noUb
  refine ⟨rep', ?_⟩
  rw [rep'.abs_eq, r.abs_eq]
  show Cache.mk ((l ++ [d.fresh]).map fun y => if y = d.fresh then _ else d.ent y) d.cur d.max (d.shape.inserted false) = _
  rw [List.map_append, List.map_congr_left fun a ha => if_neg (hne a (.tail _ ha)), List.map_singleton, if_pos rfl]
  rfl

/-- `rest` are the source nodes still to copy; `cur` points at its head, or at the seal. -/
theorem cloneGo_rep {src : CacheB} (fuel : Nat) : ∀ (rest done : List Nat) (d : CacheB) (l' : List Nat) (base : Nat),
    Rep src (done ++ rest) → Rep d l' → rest.length < fuel →
    ∃ l'', Rep (CacheB.cloneGo fuel src d (rest.head?.getD src.sl) base) l'' ∧
      (CacheB.cloneGo fuel src d (rest.head?.getD src.sl) base).abs =
        { d.abs with entries := d.abs.entries ++ cloneEntries (rest.map src.ent) base,
                     shape := { d.abs.shape with items := d.abs.shape.items + rest.length,
                                                 growthLeft := d.abs.shape.growthLeft - rest.length } } := by
  induction fuel with
  | zero => exact fun _ _ _ _ _ _ _ hf => absurd hf (Nat.not_lt_zero _)
  | succ fuel ih =>
    intro rest done d l' base rs r hf
    cases rest with
    | nil =>
      rw [List.head?_nil, Option.getD_none, cloneGo_succ, if_pos rfl]
      exact ⟨l', r, by simp only [List.map_nil, cloneEntries, List.append_nil]; rfl⟩
    | cons x rest =>
      have hxne : x ≠ src.sl := fun e => rs.sl_not_mem (e ▸ List.mem_append_right _ (.head _))
      obtain ⟨r1, e1⟩ := cloneNode_rep (src := src) x base r
      obtain ⟨l'', r2, e2⟩ := ih rest (done ++ [x]) _ _ (base + 2)
        (by rw [List.append_assoc]; exact rs) r1 (Nat.lt_of_succ_lt_succ hf)
      rw [← rs.prev_of] at r2 e2
      rw [show (x :: rest).head?.getD src.sl = x from rfl, cloneGo_succ, if_neg hxne]
      refine ⟨l'', r2, ?_⟩
      rw [e2, e1]
      -- `inserted false` never reuses a tombstone: each copy is one more item and one less growth left
      exact congr (congrArg (Cache.mk · _ _) (List.append_assoc ..))
        (congr (congrArg (Shape.mk _) (Nat.succ_add_eq_add_succ ..)) (Nat.sub_right_comm ..))

end LruMem
